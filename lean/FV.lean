import FV.Basic
import FV.Model.Adapter
import FV.Model.Audit
import FV.Model.BinaryProtocol
import FV.Model.CompactProtocol
import FV.Model.Compile
import FV.Model.ConstValue
import FV.Model.Context
import FV.Model.ContextHeap
import FV.Model.ContextOnward
import FV.Model.Determinism
import FV.Model.Flapping
import FV.Model.Framed
import FV.Model.Headers
import FV.Model.HeadersTransport
import FV.Model.Idl
import FV.Model.IdlActions
import FV.Model.IdlIncludes
import FV.Model.IdlSyntax
import FV.Model.Locks
import FV.Model.Middleware
import FV.Model.Monitor
import FV.Model.NatsClient
import FV.Model.NatsServer
import FV.Model.OutBuf
import FV.Model.Peg
import FV.Model.Processor
import FV.Model.PubSub
import FV.Model.Receivers
import FV.Model.Receivers2
import FV.Model.Receivers3
import FV.Model.Receivers4
import FV.Model.Receivers5
import FV.Model.Registry
import FV.Model.Registry0
import FV.Model.Rpc
import FV.Model.Server
import FV.Model.Thrift
import FV.Model.Topic
import FV.Spec.Breaking
import FV.Spec.Compile
import FV.Spec.ConstValue
import FV.Spec.Middleware
import FV.Spec.V0Layout
import FV.Generated.Census11
import FV.Generated.Census19
import FV.Generated.Grammar
import FV.Generated.Locks
import FV.Generated.Params
import FV.Proofs.Adapter
import FV.Proofs.AdapterProgress
import FV.Proofs.Audit
import FV.Proofs.BinaryProtocol
import FV.Proofs.Bytes
import FV.Proofs.CompactBits
import FV.Proofs.CompactProtocol
import FV.Proofs.CompactVarint
import FV.Proofs.Compile
import FV.Proofs.CompileConst
import FV.Proofs.CompileFront
import FV.Proofs.CompileValid
import FV.Proofs.Context
import FV.Proofs.ContextHeap
import FV.Proofs.ContextOnward
import FV.Proofs.Determinism
import FV.Proofs.Flapping
import FV.Proofs.Framed
import FV.Proofs.Headers
import FV.Proofs.HeadersTransport
import FV.Proofs.IdlIncludes
import FV.Proofs.ListAux
import FV.Proofs.LockFacts
import FV.Proofs.Locks
import FV.Proofs.Middleware
import FV.Proofs.Monitor
import FV.Proofs.NatsClient
import FV.Proofs.NatsServer
import FV.Proofs.OutBuf
import FV.Proofs.Peg
import FV.Proofs.PegDecls
import FV.Proofs.PegFields
import FV.Proofs.PegGaps
import FV.Proofs.PegIdl
import FV.Proofs.PegTypes
import FV.Proofs.Processor
import FV.Proofs.PubSub
import FV.Proofs.Receivers2
import FV.Proofs.Receivers3
import FV.Proofs.Receivers4
import FV.Proofs.Receivers5
import FV.Proofs.Registry
import FV.Proofs.Rpc
import FV.Proofs.Server
import FV.Proofs.Thrift
import FV.Proofs.ThriftBadUnion
import FV.Proofs.ThriftBytes
import FV.Proofs.ThriftDefaults
import FV.Proofs.ThriftFits
import FV.Proofs.ThriftForget
import FV.Proofs.Topic
import FV.Props.C01
import FV.Props.C02
import FV.Props.C03
import FV.Props.C04
import FV.Props.C05
import FV.Props.C06
import FV.Props.C07
import FV.Props.C08
import FV.Props.C09
import FV.Props.C10
import FV.Props.C11
import FV.Props.C12
import FV.Props.C13
import FV.Props.C14
import FV.Props.C15
import FV.Props.C16
import FV.Props.C17
import FV.Props.C18
import FV.Props.C19
import FV.Props.C20
