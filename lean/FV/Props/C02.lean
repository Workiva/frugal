/-
C02 — Generated Go types encode and decode exactly what the IDL declares.

  "For every valid IDL program and every value of every struct, union, exception and
  service args/result type in it, the generated Go code writes a Thrift encoding whose
  field ids, wire types and values are exactly those the IDL declares (required and default
  fields always present, optional fields present iff set, exactly one field for a union), and
  reading any conforming encoding reproduces the same value, skipping unknown fields and
  rejecting a missing required field. This holds for the binary, compact and JSON protocols
  and through typedefs, includes, enums and arbitrarily nested containers."

`FV.Thrift.encV` / `decV` model the emitted `Write` / `Read` code over the stream of
TProtocol calls (the emitted code is protocol agnostic). The byte-level protocols are Apache
Thrift's; the BINARY and the COMPACT one are modelled as the emitted code uses them
(`FV.Model.BinaryProtocol`, `FV.Model.CompactProtocol`: bytes of every write call, result of
every read call, the compact protocol's field-id state) and the round trip is proved down to
the bytes (second half of this file); the JSON protocol is exercised by the correspondence
runs, not modelled. `d : Defs` is ANY table
of typedefs, enums and struct-likes (one table for the whole multi-file program, names file
qualified); `WT d n t v` = `v` is a well-typed value of declared type `t` in canonical form
(the state an emitted Go struct can be in), nesting depth ≤ `n`. Theorems are for all `d`, `n`.

NAMES ARE PER FILE. A bare IDL name is relative to the file that uses it; the definitions table keys every
typedef, enum and struct-like by `<file>/<name>` and every `Ty.typedef` / `.enum` / `.struct` carries such a
key (the harness qualifies each reference with the file it resolves in), so `lookupTypedef`, `lookupStruct`
and `resolve` never see a bare name: two files that declare `Stamp` as `i32` and as `i64` (or as an enum, or
a struct) are two unrelated entries, and every theorem below — being for ALL tables `d` — covers programs
whose files reuse names with different meanings. Only `StructDef.name` (what `WriteStructBegin` is given) is
the bare name.

IDL DEFAULT VALUES (`Field.dflt`) are part of the model as the generator treats them (header of
`FV.Model.Thrift`): "set" is what the emitted `IsSet<F>()` says — `isSetIn sd fs f`: listed and, for
a non-pointer optional field with a default, different from it. Where a struct has no such field,
`isSetIn` is "listed" (`c02_set_is_listed_without_default`), which is how these statements read for
programs without defaults. `c02_default_optional_iff_differs`, `c02_required_default_always_written`,
`c02_default_reproduced`, `c02_read_state` are the statements about defaults themselves.
-/
import FV.Model.Thrift
import FV.Proofs.Thrift
import FV.Proofs.ThriftBadUnion
import FV.Proofs.ThriftDefaults
import FV.Proofs.ThriftBytes
import FV.Proofs.ThriftFits
import FV.Proofs.CompactBits

namespace FV.C02
open FV FV.Thrift

/-- Reading what the emitted `Write` wrote reproduces the same value and leaves what follows
untouched — for every type (typedef chains, enums, arbitrarily nested containers, structs). -/
theorem c02_roundtrip (d : Defs) (n : Nat) (t : Ty) (v : Val) (es rest : List Event)
    (hwt : WT d n t v) (henc : encV d n t v = .ok es) : decV d n t (es ++ rest) = .ok (v, rest) :=
  roundtrip d n t v es rest hwt henc

/-- What `Write` emits for a struct-like: StructBegin(name), one chunk per declared field in
declaration order, FieldStop, StructEnd; the chunk of a field that is set (`IsSet<F>()`: listed — and,
for a non-pointer optional field with a default, different from that default), or that is not
optional, is `FieldBegin(name, wire type of the RESOLVED declared type, id) … FieldEnd`; the
chunk of an unset optional (or union) field is empty. -/
theorem c02_write_declared (d : Defs) (n : Nat) (t : Ty) (nm : String) (sd : StructDef)
    (fs : List (Int × Val)) (es : List Event)
    (hres : resolve d t = .struct nm) (hsd : lookupStruct d nm = some sd)
    (henc : encV d (n + 1) t (.struct fs) = .ok es) :
    ∃ cs : List (List Event), es = [.sb sd.name] ++ cs.flatten ++ [.fs, .se] ∧
      All2 (fun (f : Field) (c : List Event) =>
        (isSetIn sd fs f = true ∨ ¬ (f.req = .optional ∨ sd.kind = .union) →
            ∃ body, c = [.fb f.name (wireOf d f.ty) f.id] ++ body ++ [.fe]) ∧
        (isSetIn sd fs f = false ∧ (f.req = .optional ∨ sd.kind = .union) → c = [])) sd.fields cs := by
  refine encV_struct_chunks d n t nm sd fs es hres hsd henc fun f c hx => ?_
  rcases fieldEvents_ok hx with ⟨hs, ho, rfl⟩ | ⟨hs, body, rfl, _⟩
  · exact ⟨fun h => h.elim (fun h => by rw [hs] at h; cases h) (absurd ho), fun _ => rfl⟩
  · exact ⟨fun _ => ⟨body, rfl⟩, fun h => hs.elim (fun h' => by rw [h.1] at h'; cases h') (absurd h.2)⟩

/-- Without a compared default (`cmpDflt`: the field is not optional, or has no default, or a default of
container type) a field is set exactly when the value lists it. -/
theorem c02_set_is_listed_without_default (sd : StructDef) (fs : List (Int × Val)) (f : Field)
    (h : cmpDflt sd f = none) : isSetIn sd fs f = (lookupVal fs f.id).isSome := by
  unfold isSetIn isSetVal
  rw [h]
  cases lookupVal fs f.id <;> rfl

/-- DEFAULTS, optional: a field that is optional (or a union's) and has a default `dv` of base / enum /
string / binary type is a non-pointer Go field holding its listed value `x` (or `dv` when the value does
not list it). It is on the wire iff it is listed with a value that Go's `!=` tells from `dv`
(`goEq x dv = false`: inequality — `c02_default_differs_off_doubles` — except on doubles, where it is the
float comparison, `c02_default_double_compare`), and then it carries `x`. -/
theorem c02_default_optional_iff_differs (d : Defs) (n : Nat) (t : Ty) (nm : String) (sd : StructDef)
    (fs : List (Int × Val)) (es : List Event)
    (hres : resolve d t = .struct nm) (hsd : lookupStruct d nm = some sd)
    (henc : encV d (n + 1) t (.struct fs) = .ok es) :
    ∃ cs : List (List Event), es = [.sb sd.name] ++ cs.flatten ++ [.fs, .se] ∧
      All2 (fun (f : Field) (c : List Event) =>
        ∀ dv, (f.req = .optional ∨ sd.kind = .union) → f.dflt = some dv → dv.scalar = true →
          (c ≠ [] ↔ ∃ x, lookupVal fs f.id = some x ∧ goEq x dv = false) ∧
          (∀ x, lookupVal fs f.id = some x → goEq x dv = false →
            ∃ body, encV d n f.ty x = .ok body ∧ c = [.fb f.name (wireOf d f.ty) f.id] ++ body ++ [.fe])) sd.fields cs := by
  refine encV_struct_chunks d n t nm sd fs es hres hsd henc fun f c hx dv hopt hd hsc => ?_
  -- `IsSet<F>()` of such a field: listed with a value that differs from the default
  have hset : isSetIn sd fs f = true ↔ ∃ x, lookupVal fs f.id = some x ∧ goEq x dv = false := by
    unfold isSetIn
    cases lookupVal fs f.id with
    | none => simp
    | some x => simpa using isSetVal_default sd f x dv hopt hd hsc
  rcases fieldEvents_ok hx with ⟨hs, _, rfl⟩ | ⟨hs, body, rfl, hb⟩
  · have hn : ¬ ∃ x, lookupVal fs f.id = some x ∧ goEq x dv = false := fun h => by rw [hset.mpr h] at hs; cases hs
    exact ⟨⟨fun h => absurd rfl h, fun h => absurd h hn⟩, fun x hl hg => absurd ⟨x, hl, hg⟩ hn⟩
  · exact ⟨⟨fun _ => hset.mp (hs.resolve_right (not_not_intro hopt)), fun _ => by simp⟩,
      fun x hl _ => ⟨body, hb x (by simp only [getField, hl]), rfl⟩⟩

/-- Off the doubles (bool, integers, enums, string, binary defaults) "Go's `!=` tells them apart" is plain
inequality of the values. -/
theorem c02_default_differs_off_doubles (x dv : Val) (h : ∀ b, dv ≠ .dbl b) : goEq x dv = false ↔ x ≠ dv := by
  rw [← Bool.not_eq_true, goEq_iff_of_not_dbl x dv h]

/-- On doubles the emitted `p.F != T_F_DEFAULT` is Go's float comparison of the IEEE bit patterns `a`
(the field) and `b` (the default): the field is SET iff one of them is a NaN, or they are different
bits that are not both zeros. So a NaN is always set (and written), -0.0 against a 0.0 default (and
+0.0 against -0.0) is NOT set and reads back as the default, and every other bit pattern different from
the default's — one ulp away, a subnormal, an infinity — is set. -/
theorem c02_default_double_compare (a b : Nat) :
    (goEq (.dbl a) (.dbl b) = false ↔
      dblIsNaN a = true ∨ dblIsNaN b = true ∨ (a ≠ b ∧ (dblIsZero a = false ∨ dblIsZero b = false))) ∧
    (dblIsNaN a = true → goEq (.dbl a) (.dbl b) = false) ∧
    goEq (.dbl 9223372036854775808) (.dbl 0) = true ∧ goEq (.dbl 0) (.dbl 9223372036854775808) = true := by
  refine ⟨?_, fun h => dblEq_nan_left a b h, dblEq_zeros.2, dblEq_zeros.1⟩
  -- `dblEq_iff` says when two bit patterns are equal as floats; its negation is propositional
  rw [goEq_dbl, ← Bool.not_eq_true, dblEq_iff]
  grind

/-- DEFAULTS, required / default requiredness: a field that is not optional and has a default `dv` is
ALWAYS written, whatever the value: it carries the listed value, or `dv` (the constructor's default)
when the value does not list it. -/
theorem c02_required_default_always_written (d : Defs) (n : Nat) (t : Ty) (nm : String) (sd : StructDef)
    (fs : List (Int × Val)) (es : List Event)
    (hres : resolve d t = .struct nm) (hsd : lookupStruct d nm = some sd)
    (henc : encV d (n + 1) t (.struct fs) = .ok es) :
    ∃ cs : List (List Event), es = [.sb sd.name] ++ cs.flatten ++ [.fs, .se] ∧
      All2 (fun (f : Field) (c : List Event) =>
        ∀ dv, ¬ (f.req = .optional ∨ sd.kind = .union) → f.dflt = some dv →
          ∃ body, encV d n f.ty ((lookupVal fs f.id).getD dv) = .ok body ∧
            c = [.fb f.name (wireOf d f.ty) f.id] ++ body ++ [.fe]) sd.fields cs := by
  refine encV_struct_chunks d n t nm sd fs es hres hsd henc fun f c hx dv hopt hd => ?_
  rcases fieldEvents_ok hx with ⟨_, ho, _⟩ | ⟨_, body, rfl, hb⟩
  · exact absurd ho hopt
  · exact ⟨body, hb _ (by unfold getField; cases lookupVal fs f.id <;> simp [hd]), rfl⟩

/-- DEFAULTS reproduced by the reader (schema evolution): a value written by the emitted `Write` of a
struct definition `sdw`, read by the emitted `Read` of a definition `sdr` declaring the same fields and
more (none of the extra ones required) — so the stream OMITS every extra field `g`: the read succeeds,
consumes exactly the encoding, the common fields keep their values, and `g` is in the state the
constructor `New<T>()` gave it: a required/default-requiredness `g` holds its default, an optional `g`
is unset, and in both cases `Get<G>()` returns the declared default. `tr`, `rest` are arbitrary, so
this is every nested read too (a struct inside a struct, list, set or map is read by the same code). -/
theorem c02_default_reproduced (d : Defs) (n : Nat) (tw tr : Ty) (nw nr : String) (sdw sdr : StructDef)
    (fs : List (Int × Val)) (es rest : List Event)
    (hrw : resolve d tw = .struct nw) (hsw : lookupStruct d nw = some sdw)
    (hrr : resolve d tr = .struct nr) (hsr : lookupStruct d nr = some sdr)
    (hkind : sdr.kind = sdw.kind) (hnu : sdw.kind ≠ .union)
    (hsub : ∀ f ∈ sdw.fields, f ∈ sdr.fields) (hndr : (sdr.fields.map (·.id)).Nodup)
    (hreqr : ∀ f ∈ sdr.fields, f.req = .required → f ∈ sdw.fields)
    (hwt : WT d (n + 1) tw (.struct fs)) (henc : encV d (n + 1) tw (.struct fs) = .ok es) :
    decV d (n + 1) tr (es ++ rest) = .ok (.struct (normFields sdr fs), rest) ∧
    (∀ f ∈ sdw.fields, lookupVal (normFields sdr fs) f.id = lookupVal fs f.id) ∧
    (∀ g ∈ sdr.fields, g.id ∉ sdw.fields.map (·.id) →
       lookupVal (normFields sdr fs) g.id = (if g.req = .optional then none else g.dflt) ∧
       getField (normFields sdr fs) g = g.dflt) := by
  obtain ⟨sd, hsd, hw⟩ := WT.struct hrw hwt
  rw [hsw] at hsd; cases hsd
  have hnur : sdr.kind ≠ .union := by rw [hkind]; exact hnu
  refine ⟨?_, ?_, ?_⟩
  · obtain ⟨cs, henc', hall⟩ := hw.enc (Q := fun t x body => ∀ rest, decV d n t (body ++ rest) = .ok (x, rest))
      hrw hsw fun f hf x hl => enc_roundtrip d n f.ty x (hw.fields f hf x hl)
    cases henc.symm.trans henc'
    have := decV_struct_flatten d n tr nr sdw.name sdw sdr fs cs rest hrr hsr hndr hw.nodup hsub hall
    rw [hw.entries_eq] at this
    exact this (fun f hf hr _ => hw.req f (hreqr f hf hr) (by rw [hr]; intro h; cases h) hnu) (fun h => hnur h.1)
  · intro f hf
    rw [lookup_normFields sdr fs hndr f (hsub f hf)]
    exact readState_eq_lookup (fun hl => hkind ▸ hw.absent f hf hl)
      fun x hl => (isSetVal_kind sdw sdr hkind f x).trans (hw.set f hf x hl)
  · intro g hg hid
    -- the writer does not know `g`, so the value does not list it
    have hl := hw.unlisted hid
    have h1 : lookupVal (normFields sdr fs) g.id = (if g.req = .optional then none else g.dflt) := by
      rw [lookup_normFields sdr fs hndr g hg]
      unfold readState
      simp only [hl, hnur, or_false]
    refine ⟨h1, ?_⟩
    unfold getField
    rw [h1]
    by_cases ho : g.req = .optional
    · simp only [if_pos ho]
    · simp only [if_neg ho]
      cases g.dflt <;> rfl

/-- A union with no field or with two or more fields set is refused by `Write`. -/
theorem c02_union_write_exactly_one (d : Defs) (n : Nat) (t : Ty) (nm : String) (sd : StructDef)
    (fs : List (Int × Val)) (hres : resolve d t = .struct nm) (hsd : lookupStruct d nm = some sd)
    (hu : sd.kind = .union) (hbad : (sd.fields.filter (isSetIn sd fs)).length ≠ 1) :
    encV d (n + 1) t (.struct fs) = .err .invalidData := by
  rw [encV_struct hres hsd, if_pos ⟨hu, hbad⟩]

/-- "Exactly one field for a union", at ANY DEPTH. A value that contains — at a position reachable through
list / set / map elements and through the struct fields the emitted `Write` writes: nested in a struct,
exception, union, args / result struct, or container — a union with no field or with two or more fields
set (`HasBadUnion`) is never written: `Write` does not succeed on it, whatever else the value looks like;
and when the value is otherwise what the emitted Go types can hold (`WTU`: well-typed apart from the
union counts) the outcome is exactly the error INVALID_DATA — no panic, no other error. -/
theorem c02_write_rejects_bad_union (d : Defs) (n : Nat) (t : Ty) (v : Val) (hb : HasBadUnion d n t v) :
    (∀ es, encV d n t v ≠ .ok es) ∧ (WTU d n t v → encV d n t v = .err .invalidData) := by
  refine ⟨fun es => enc_bad_union_not_ok d n t v es hb, fun hw => ?_⟩
  rcases enc_okOrInvalid d n t v hw with ⟨es, hes⟩ | he
  · exact absurd hes (enc_bad_union_not_ok d n t v es hb)
  · exact he

/-- Every well-typed value is well-typed apart from the union counts, so the two cases are exhaustive on
what the harness builds: `Write` succeeds on the well-formed values (`enc_total`) and returns
INVALID_DATA on those with a bad union somewhere. -/
theorem c02_wt_is_wtu (d : Defs) (n : Nat) (t : Ty) (v : Val) (h : WT d n t v) : WTU d n t v := by
  refine WT.shape_induct d ?_ ?_ ?_ ?_ n t v h
  · intro n t rt v e hr h
    cases h <;> simp only [WTU, hr]
  · intro n t rt a bg en w vs hr h ih
    cases h <;> simpa only [WTU, hr] using ih
  · intro n t kt vt kvs hres ih
    simpa only [WTU, hres] using ih
  · intro n t nm sd fs hres hsd hw ih
    simp only [WTU, hres]
    exact ⟨sd, hsd, hw.req, ih⟩

/-- Whatever the stream, when `Read` of a struct-like succeeds every required field has been
read and a union holds exactly one set field (`acc` = the fields that arrived; set = arrived and,
for a non-pointer field with a default, different from it) — i.e. a stream in which a required
field is missing (or a union's field count is not one) is rejected. -/
theorem c02_read_complete (d : Defs) (n : Nat) (t : Ty) (nm : String) (sd : StructDef)
    (es r : List Event) (v : Val) (hres : resolve d t = .struct nm) (hsd : lookupStruct d nm = some sd)
    (hdec : decV d (n + 1) t es = .ok (v, r)) :
    ∃ fs, v = .struct (normFields sd fs) ∧
      (∀ f ∈ sd.fields, f.req = .required → sd.kind ≠ .union → (lookupVal fs f.id).isSome) ∧
      (sd.kind = .union → (sd.fields.filter (isSetIn sd fs)).length = 1) := by
  unfold decV at hdec
  simp only [hres] at hdec
  -- the arms of `decV`: nine base types, list, set, map, struct, anything else
  split at hdec
  case h_13 nm' name r0 heq =>  -- struct
    cases heq
    simp only [hsd] at hdec
    -- the field loop ended at StructEnd and both checks passed
    split at hdec <;> try cases hdec
    rename_i fs r' _
    split at hdec
    · cases hdec
    rename_i hany
    split at hdec
    · cases hdec
    rename_i hun
    cases hdec
    exact ⟨fs, rfl, (required_seen_iff sd fs).mp (Bool.not_eq_true _ ▸ hany),
      fun hk => Decidable.of_not_not fun h => hun ⟨hk, h⟩⟩
  -- arms 1–12 are for other types than `.struct nm` (first alternative); the last arm is an error (second)
  all_goals first | (rename_i heq; cases heq) | cases hdec

/-- Whatever arrives, the state `Read` leaves is one normalised by `IsSet<F>()`: for some list `acc` of
fields (in the proof, those that arrived; the statement does not tie `acc` to the stream) a field of the
result is listed iff `readState sd acc` says so (`readState`: an optional non-pointer field that arrived
WITH its default value is unset; a non-optional field that did not arrive holds its default). -/
theorem c02_read_state (d : Defs) (n : Nat) (t : Ty) (nm : String) (sd : StructDef)
    (es r : List Event) (v : Val) (hres : resolve d t = .struct nm) (hsd : lookupStruct d nm = some sd)
    (hnd : (sd.fields.map (·.id)).Nodup) (hdec : decV d (n + 1) t es = .ok (v, r)) :
    ∃ acc fs', v = .struct fs' ∧ ∀ f ∈ sd.fields, lookupVal fs' f.id = readState sd acc f := by
  obtain ⟨fs, rfl, _⟩ := c02_read_complete d n t nm sd es r v hres hsd hdec
  exact ⟨fs, _, rfl, fun f hf => lookup_normFields sd fs hnd f hf⟩

/-- Unknown fields are skipped: at any point of the emitted field loop (`acc` = whatever has been
read so far), a field whose id the struct does not declare — carrying ANY well-typed value `u` of ANY
type of ANY definitions table `d'` (the sender's schema, unknown to the reader) — is consumed and
leaves the loop exactly where it would be without it. -/
theorem c02_skip_unknown (d d' : Defs) (n : Nat) (sd : StructDef) (fuel : Nat) (nm : String) (uid : Int)
    (tu : Ty) (u : Val) (body rest : List Event) (acc : List (Int × Val))
    (hunk : sd.fields.find? (·.id = uid) = none)
    (hwt : WT d' (n + 1) tu u) (henc : encV d' (n + 1) tu u = .ok body) :
    decFields (decV d n) (skip (n + 1)) sd (fuel + 1) (.fb nm (wireOf d' tu) uid :: (body ++ .fe :: rest)) acc
      = decFields (decV d n) (skip (n + 1)) sd fuel rest acc :=
  decFields_skip_unknown _ _ sd fuel nm _ uid body rest acc hunk (skip_enc d' (n + 1) tu u body _ hwt henc)

/-- Enums are written as I32, strings and binaries as STRING, through any typedef: the wire type
is a function of the resolved type only. -/
theorem c02_wire_type_of_resolved (d : Defs) (t t' : Ty) (h : resolve d t = resolve d t') :
    wireOf d t = wireOf d t' := by
  unfold wireOf; rw [h]

/-! Non-vacuity: a program with a typedef chain, an enum, optional fields, nested containers and
DEFAULTS (`Inner.n` optional `= 5`, `Inner.k` default requiredness `= 7`, `Outer.c` optional enum
`= 5`; `InnerV1` is an older version of `Inner` without `n` and `k`); a well-typed value; the emitted
writer succeeds on it (so `c02_roundtrip` applies). -/
def exDefs : Defs :=
  { typedefs := [("m/Id", .i64), ("m/Ids", .list (.typedef "m/Id"))],
    enums := [("m/Color", [1, 5, 6])],
    structs := [⟨.struct, "m/Inner", "Inner", [⟨1, .required, "name", .string, none⟩, ⟨2, .optional, "n", .i32, some (.int 5)⟩,
                   ⟨3, .default, "k", .i32, some (.int 7)⟩]⟩,
                ⟨.struct, "m/InnerV1", "Inner", [⟨1, .required, "name", .string, none⟩]⟩,
                ⟨.struct, "m/Outer", "Outer", [⟨1, .required, "ids", .typedef "m/Ids", none⟩,
                   ⟨3, .default, "m", .map .string (.list (.struct "m/Inner")), none⟩,
                   ⟨8, .optional, "c", .enum "m/Color", some (.int 5)⟩]⟩] }

def exVal : Val :=
  .struct [(1, .list [.int 7, .int (-1)]), (3, .map [(.bytes [107], .list [.struct [(1, .bytes [97]), (2, .int 6), (3, .int 9)]])])]

example : (encV exDefs 8 (.struct "m/Outer") exVal).isOk = true := by decide +kernel

example : WT exDefs 8 (.struct "m/Outer") exVal := by decide +kernel

/-- `Inner.n = 5` (its default): `IsSetN()` is false and the field is not written — the same calls as
for the value that does not list it; `n = 6` is written. -/
example : encV exDefs 8 (.struct "m/Inner") (.struct [(1, .bytes [97]), (2, .int 5), (3, .int 9)])
    = encV exDefs 8 (.struct "m/Inner") (.struct [(1, .bytes [97]), (3, .int 9)]) := by decide +kernel

example : encV exDefs 8 (.struct "m/Inner") (.struct [(1, .bytes [97]), (2, .int 6), (3, .int 9)])
    = .ok [.sb "Inner", .fb "name" 11 1, .str false [97], .fe, .fb "n" 8 2, .i32 6, .fe, .fb "k" 8 3, .i32 9, .fe, .fs, .se] := by
  decide +kernel

/-- `c02_default_reproduced` applies (writer `InnerV1`, reader `Inner`): the stream omits `n` and `k`;
the reader leaves `k = 7` (listed) and `n` unset (the Go field holds 5). Also inside a list inside a
map inside `Outer`: the nested read is the same code. -/
example : ∃ es, encV exDefs 8 (.struct "m/InnerV1") (.struct [(1, .bytes [97])]) = .ok es ∧
    WT exDefs 8 (.struct "m/InnerV1") (.struct [(1, .bytes [97])]) ∧
    decV exDefs 8 (.struct "m/Inner") es = .ok (.struct [(1, .bytes [97]), (3, .int 7)], []) := by
  exact ⟨_, rfl, by decide +kernel, by decide +kernel⟩

example : decV exDefs 8 (.struct "m/Outer")
    [.sb "Outer", .fb "ids" 15 1, .lb 10 0, .le, .fe,
      .fb "m" 13 3, .mb 11 15 1, .str false [107], .lb 12 1, .sb "Inner", .fb "name" 11 1, .str false [97], .fe,
        .fb "n" 8 2, .i32 5, .fe, .fs, .se, .le, .me, .fe,
      .fb "c" 8 8, .i32 5, .fe, .fs, .se]
    = .ok (.struct [(1, .list []), (3, .map [(.bytes [107], .list [.struct [(1, .bytes [97]), (3, .int 7)]])])], []) := by
  decide +kernel

/-! Non-vacuity of `c02_write_rejects_bad_union`: a union with two fields set inside a list inside a
struct, and an empty union as a struct field of an exception. -/
def exDefsU : Defs :=
  { typedefs := [], enums := [],
    structs := [⟨.union, "m/U", "U", [⟨1, .optional, "a", .i32, none⟩, ⟨2, .optional, "b", .string, none⟩]⟩,
                ⟨.struct, "m/H", "H", [⟨1, .default, "l", .list (.struct "m/U"), none⟩, ⟨2, .default, "seq", .i32, none⟩]⟩,
                ⟨.exception, "m/X", "X", [⟨1, .default, "u", .struct "m/U", none⟩]⟩] }

def exBadVal : Val := .struct [(1, .list [.struct [(1, .int 3)], .struct [(1, .int 3), (2, .bytes [120])]]), (2, .int 3)]

example : HasBadUnion exDefsU 8 (.struct "m/H") exBadVal ∧ WTU exDefsU 8 (.struct "m/H") exBadVal := by
  decide +kernel

example : encV exDefsU 8 (.struct "m/H") exBadVal = .err .invalidData := by decide

example : HasBadUnion exDefsU 8 (.struct "m/X") (.struct [(1, .struct [])]) := by
  decide +kernel

/-! ## Down to the bytes: the binary and the compact protocol

`Event` = one TProtocol WRITE call, `Call` = one READ call, `callOf e` = the read call that consumes
what the write call `e` produced (the emitted `Read` mirrors the emitted `Write` call for call; it
is the kind check of the harness's replaying protocol). `binWrite`/`binRead` and
`cmpWrite`/`cmpRead` model Apache Thrift Go v0.19.0's `TBinaryProtocol` / `TCompactProtocol` in
their default configuration. Integers are Go's int8/16/32/64: two's complement, explicit ranges. -/

/-- Go's fixed-width conversions round-trip on the range of the signed type (8, 16, 32, 64 bits). -/
theorem c02_twos_complement_roundtrip :
    (∀ z : Int, -128 ≤ z ∧ z < 128 → toS8 (toU8 z) = z) ∧
    (∀ z : Int, -32768 ≤ z ∧ z < 32768 → toS16 (toU16 z) = z) ∧
    (∀ z : Int, -2147483648 ≤ z ∧ z < 2147483648 → toI32 (toU32 z) = z) ∧
    (∀ z : Int, -9223372036854775808 ≤ z ∧ z < 9223372036854775808 → toS64 (toU64 z) = z) :=
  ⟨toS8_toU8, toS16_toU16, toI32_toU32, toS64_toU64⟩

/-- `binary.BigEndian.PutUintN` then `UintN`: the `k` big-endian bytes of `n` denote `n mod 256^k`
(all `k`: 2, 4 and 8 are the ones used). -/
theorem c02_bigendian_roundtrip (k n : Nat) : beNat (beBytes k n) = n % 256 ^ k ∧ (beBytes k n).length = k :=
  ⟨beNat_beBytes k n, beBytes_length k n⟩

/-- Binary protocol, one call: every Read* method applied to the bytes the mirrored Write* method
produced (followed by anything) returns what was written — field header = type byte + i16 id,
stop = 0, integers big-endian two's complement, double = the 8 bytes of its IEEE bits,
string/binary = i32 length + bytes, list/set = element type + i32 size, map = key type + value
type + i32 size, bool = one byte, struct begin/end = nothing — and leaves what followed. -/
theorem c02_binary_read_write (e : Event) (rest : Bytes) (h : BinFits e) :
    binRead (callOf e) (binWrite e ++ rest) = .ok (binErase e, rest) :=
  binRead_binWrite e rest h

/-- What the protocols do not put on the wire is never looked at by the emitted `Read`: struct and
field names, the key/value types announced by an empty map. -/
theorem c02_read_ignores_unsent (d : Defs) (n : Nat) (t : Ty) (es : List Event) :
    decV d n t (es.map forget) = mapR (decV d n t es) :=
  decV_forget d n t es

/-- BINARY PROTOCOL ROUND TRIP. For every definitions table, type and well-typed value within the
depth budget whose write calls fit Go's parameter types and `MaxMessageSize`: the bytes that the
emitted `Write` puts on the transport through the binary protocol, read through the binary protocol
with the calls the emitted `Read` makes, give back the written calls (names excepted) and exactly
the bytes that followed, and the emitted `Read` turns them into the value that was written,
consuming all of them. -/
theorem c02_binary_roundtrip (d : Defs) (n : Nat) (t : Ty) (v : Val) (es : List Event) (rest : Bytes)
    (hwt : WT d n t v) (henc : encV d n t v = .ok es) (hfit : ∀ e ∈ es, BinFits e) :
    binReads (es.map callOf) (binEnc es ++ rest) = .ok (es.map binErase, rest) ∧
      decV d n t (es.map binErase) = .ok (v, []) :=
  ⟨binReads_binEnc es rest hfit, decV_erased d n t v es binErase forget_binErase hwt henc⟩

/-- Zigzag (`int32ToZigzag`/`zigzagToInt32`, and the 64-bit pair): decoding the encoding gives the
number back, and the encoding of an int32 / int64 fits 32 / 64 bits. -/
theorem c02_zigzag_roundtrip (z : Int) :
    unzigzag (zigzag z) = z ∧
    (-2147483648 ≤ z ∧ z < 2147483648 → zigzag z < 4294967296) ∧
    (-9223372036854775808 ≤ z ∧ z < 9223372036854775808 → zigzag z < 18446744073709551616) :=
  ⟨zigzag_unzigzag z, zigzag_lt32 z, zigzag_lt64 z⟩

/-- Varint: for EVERY `n` (no bound on the number of bytes), the read loop started at any shift and
accumulator on the bytes `writeVarint` produced, followed by anything, adds `n·2^shift` and stops
exactly at what followed; so `readVarint64` returns every `n < 2^64` and `readVarint32` every
`n < 2^32`. (Induction on `n / 128`: one step per byte.) -/
theorem c02_varint_roundtrip (n : Nat) (rest : Bytes) :
    (∀ shift acc, uvarintDec (uvarint n ++ rest) shift acc = .ok (acc + n * 2 ^ shift, rest)) ∧
    (n < 18446744073709551616 → readVarint64 (uvarint n ++ rest) = .ok (n, rest)) ∧
    (n < 4294967296 → readVarint32 (uvarint n ++ rest) = .ok (n, rest)) :=
  ⟨uvarintDec_uvarint n rest, readVarint64_uvarint n rest, readVarint32_uvarint n rest⟩

/-- The arithmetic reading of the Go bit operations is itself proved where it matters most:
`int32ToZigzag`'s `(n << 1) ^ (n >> 31)` (arithmetic shift) on 32-bit vectors is `zigzag n` for every
int32 `n`; the varint loop's `n & 0x7F`, `(n & 0x7F) | 0x80`, `n >> 7` are `n % 128`, `n % 128 + 128`,
`n / 128` for every `n`. -/
theorem c02_zigzag_varint_bitops :
    (∀ z : Int, -2147483648 ≤ z ∧ z < 2147483648 → (zigzag32bv (BitVec.ofInt 32 z)).toNat = zigzag z) ∧
    (∀ n : Nat, n &&& 127 = n % 128 ∧ (n &&& 127) ||| 128 = n % 128 + 128 ∧ n >>> 7 = n / 128) :=
  ⟨zigzag32bv_eq, varint_bitops⟩

/-- Compact field header: whatever the previous field id of the struct (`r.last`), both forms — the
one-byte `delta<<4 | type` when `0 < id - last ≤ 15`, and `type` followed by the zigzag-varint id
otherwise (larger gap, descending or equal id) — are decoded to the type of the nibble and the id,
the id becomes the reader's previous id, and a bool nibble (1 = true, 2 = false) is kept for the
`ReadBool` that follows. -/
theorem c02_compact_field_header_roundtrip (r : CR) (nib tt : Nat) (id : Int) (rest : Bytes)
    (hl : InR16 r.last) (hid : InR16 id) (hn0 : nib ≠ 0) (hn : nib < 16) (htt : ttypeOf nib = some tt) :
    cmpRead r .fieldBegin (cmpFieldHdr r.last nib id ++ rest) =
      .ok (.fb "" tt id, rest, ⟨r.stack, id, if nib = 1 ∨ nib = 2 then some (nib = 1) else r.bool⟩) :=
  cmpRead_fieldHdr r nib tt id rest hl hid hn0 hn htt

/-- Compact protocol, one call, with the writer's and the reader's states in step (`CRel`): the read
call returns what the mirrored write call was given — zigzag varints for i16/i32/i64, list/set
header with the size in the high nibble (or 15 and a varint), map header = varint size and a
key/value type byte (a single 0 for the empty map), string = varint length + bytes, double = 8 bytes
LITTLE endian, struct begin/end = push/pop of the previous field id — leaves what followed, and the
states are in step again. (The header of a bool field is the next theorem.) -/
theorem c02_compact_read_write (w w' : CW) (r : CR) (e : Event) (bs rest : Bytes) (hrel : CRel w r)
    (hfit : CmpFits e) (hnb : ∀ nm id, e ≠ .fb nm 2 id) (hw : cmpWrite w e = .ok (bs, w')) :
    ∃ r', cmpRead r (callOf e) (bs ++ rest) = .ok (cmpErase e, rest, r') ∧ CRel w' r' :=
  cmp_step w w' r e bs rest hrel hfit hnb hw

/-- Compact protocol, bool field: `WriteFieldBegin(BOOL)` writes nothing, `WriteBool` writes the
header with the value folded into the type nibble; `ReadFieldBegin` decodes it as a BOOL field and
`ReadBool` returns the value without touching the input. -/
theorem c02_compact_bool_field (w : CW) (r : CR) (id : Int) (b : Bool) (rest : Bytes) (hrel : CRel w r)
    (hid : InR16 id) :
    ∃ r1 r2, cmpRead r .fieldBegin (cmpFieldHdr w.last (if b then 1 else 2) id ++ rest) = .ok (.fb "" 2 id, rest, r1) ∧
      cmpRead r1 .bool rest = .ok (.bool b, rest, r2) ∧ CRel { w with last := id, pend := none } r2 :=
  cmp_step_boolfield w r id b rest hrel hid

/-- COMPACT PROTOCOL ROUND TRIP (full: structs, bool fields, nested containers). For every
definitions table, type and well-typed value within the depth budget whose write calls fit
(`CmpOK`: Go's parameter types, `MaxMessageSize`, real TTypes, a BOOL field holds a bool;
`cmpBalanced`: struct ends match struct begins): the stateful compact writer succeeds on the calls
of the emitted `Write`; its bytes, read from the initial reader state with the calls the emitted
`Read` makes, give back the written calls (minus names and the types of empty maps) and exactly the
bytes that followed; and the emitted `Read` turns them into the value that was written. -/
theorem c02_compact_roundtrip (d : Defs) (n : Nat) (t : Ty) (v : Val) (es : List Event)
    (hwt : WT d n t v) (henc : encV d n t v = .ok es) (hok : CmpOK es) (hbal : cmpBalanced 0 es = true) :
    ∃ bs w', cmpEnc CW.init es = .ok (bs, w') ∧
      ∀ rest : Bytes, ∃ r', cmpReads CR.init (es.map callOf) (bs ++ rest) = .ok (es.map cmpErase, rest, r') ∧
        decV d n t (es.map cmpErase) = .ok (v, []) := by
  obtain ⟨bs, w', hb⟩ := cmpEnc_total es CW.init hbal
  refine ⟨bs, w', hb, fun rest => ?_⟩
  obtain ⟨r', hr, _⟩ := cmpReads_cmpEnc es CW.init w' CR.init bs rest CRel_init hok hb
  exact ⟨r', hr, decV_erased d n t v es cmpErase forget_cmpErase hwt henc⟩

/-- The byte-level hypotheses are not extra assumptions about the emitted code: for every well-typed
value that FITS (`Fits`: integers within their declared widths, enum values within int32, IEEE
bits within 64 bits, string lengths and container sizes within `MaxMessageSize`, declared field ids
within int16) the calls of the emitted `Write` fit the binary protocol, have the shape the compact
protocol needs (a BOOL field holds exactly one bool, field types are real TTypes, struct ends
match struct begins). -/
theorem c02_write_calls_fit (d : Defs) (n : Nat) (t : Ty) (v : Val) (es : List Event)
    (hwt : WT d n t v) (hfit : Fits d n t v) (henc : encV d n t v = .ok es) :
    (∀ e ∈ es, BinFits e) ∧ CmpOK es ∧ cmpBalanced 0 es = true :=
  ((Res.of_exists_ok (encV_chunk d n t v hwt) henc).2.2 hfit).hyps

/-- BINARY, value level: for every definitions table, type and well-typed value that fits, the
emitted `Write` succeeds and its bytes through the binary protocol (followed by anything) are read
back — by the protocol reads the emitted `Read` makes, then by the emitted `Read` — to the value. -/
theorem c02_binary_roundtrip_values (d : Defs) (n : Nat) (t : Ty) (v : Val) (rest : Bytes)
    (hwt : WT d n t v) (hfit : Fits d n t v) :
    ∃ es, encV d n t v = .ok es ∧
      binReads (es.map callOf) (binEnc es ++ rest) = .ok (es.map binErase, rest) ∧
      decV d n t (es.map binErase) = .ok (v, []) := by
  obtain ⟨es, henc, _, _, hc⟩ := encV_chunk d n t v hwt
  exact ⟨es, henc, c02_binary_roundtrip d n t v es rest hwt henc (hc hfit).hyps.1⟩

/-- COMPACT, value level (full): likewise through the stateful compact protocol, from the initial
writer and reader states. -/
theorem c02_compact_roundtrip_values (d : Defs) (n : Nat) (t : Ty) (v : Val)
    (hwt : WT d n t v) (hfit : Fits d n t v) :
    ∃ es bs w', encV d n t v = .ok es ∧ cmpEnc CW.init es = .ok (bs, w') ∧
      ∀ rest : Bytes, ∃ r', cmpReads CR.init (es.map callOf) (bs ++ rest) = .ok (es.map cmpErase, rest, r') ∧
        decV d n t (es.map cmpErase) = .ok (v, []) := by
  obtain ⟨es, henc, _, _, hc⟩ := encV_chunk d n t v hwt
  have h := (hc hfit).hyps
  obtain ⟨bs, w', hb, hr⟩ := c02_compact_roundtrip d n t v es hwt henc h.2.1 h.2.2
  exact ⟨es, bs, w', henc, hb, hr⟩

/-! Non-vacuity of the byte-level hypotheses: the calls the emitted `Write` makes for `exVal`, and
for a value with bool fields, an id gap > 15, a descending id, an i64 extreme and an empty map. -/
def exDefs2 : Defs :=
  { typedefs := [], enums := [],
    structs := [⟨.struct, "m/W", "W", [⟨1, .default, "a", .bool, none⟩, ⟨17, .default, "b", .bool, none⟩, ⟨40, .default, "s", .string, none⟩,
                   ⟨39, .optional, "l", .i64, none⟩, ⟨300, .optional, "m", .map .string (.list .i16), none⟩, ⟨301, .optional, "bs", .list .bool, none⟩]⟩] }

def exVal2 : Val :=
  .struct [(1, .bool true), (17, .bool false), (40, .bytes [104, 105]), (39, .int (-9223372036854775808)),
           (300, .map []), (301, .list [.bool true, .bool false])]

def exEvents : List Event :=
  [.sb "Outer", .fb "ids" 15 1, .lb 10 2, .i64 7, .i64 (-1), .le, .fe,
   .fb "m" 13 3, .mb 11 15 1, .str false [107], .lb 12 1,
     .sb "Inner", .fb "name" 11 1, .str false [97], .fe, .fb "n" 8 2, .i32 6, .fe, .fb "k" 8 3, .i32 9, .fe, .fs, .se,
   .le, .me, .fe, .fs, .se]

example : ∃ es, encV exDefs 8 (.struct "m/Outer") exVal = .ok es ∧ (∀ e ∈ es, BinFits e) ∧ CmpOK es ∧ cmpBalanced 0 es = true := by
  refine ⟨exEvents, by decide +kernel, ?_, ?_, ?_⟩ <;> decide

example : ∃ es, encV exDefs2 8 (.struct "m/W") exVal2 = .ok es ∧ (∀ e ∈ es, BinFits e) ∧ CmpOK es ∧ cmpBalanced 0 es = true := by
  refine ⟨_, rfl, ?_, ?_, ?_⟩ <;> decide

example : WT exDefs2 8 (.struct "m/W") exVal2 := by
  decide +kernel

example : Fits exDefs2 8 (.struct "m/W") exVal2 := by
  decide +kernel

example : Fits exDefs 8 (.struct "m/Outer") exVal := by
  decide +kernel

end FV.C02
