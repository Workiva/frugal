/-
C07 — pub/sub delivers each message once, intact, and isolates bad messages.

  "Every valid message published on a topic is delivered to each subscriber on that topic
  exactly once, with payload and publisher headers intact, in publish order for a
  single-worker subscriber (a permutation for n workers); messages on other topics are never
  delivered; a malformed message is discarded without affecting the delivery of later
  messages; after Unsubscribe returns no handler is invoked for a message published
  afterwards, and Unsubscribe always returns."

READING (DESIGN.md §7 C07): "exactly once" is about a subscriber that stays subscribed. Both
transports stop their workers on a quit signal that races the queue, so a message still queued
when Unsubscribe is called may be dropped: for those the statement is "at most once, in order"
(`c07_inflight_at_most_once`).

Model: FV.Model.PubSub (publisher = FContext headers + `_topic_<var>` headers + envelope + emitted
Write; subscriber = broker FIFO → work queue → workers → emitted callback: length check, header
read (C04 codec), op-name check, emitted Read (C02 model), handler; life cycle as a transition
system over ALL schedules; go-stomp's hand-over for "Unsubscribe returns"). The broker contract
(per-topic FIFO, at most once, nothing after the acknowledged unsubscribe) is ASSUMED.
-/
import FV.Model.PubSub
import FV.Proofs.PubSub
import FV.Proofs.Context
import FV.Proofs.LockFacts

namespace FV.C07
open FV FV.Thrift FV.PubSub

/-- One publish, classified independently of the pipeline. -/
inductive Msg where
  | valid (sz : Nat) (h : Hdrs) (v : Val)   -- the emitted publisher of THIS operation, on the subscriber's topic
  | malformed (p : Packet)                  -- anything on the topic that is not deliverable
  | foreign (t : Topic) (p : Packet)        -- anything on another topic

/-- Hypotheses per class. `malformed`: the pipeline rejects it without a panic — shown below
(`c07_malformed_classes`) to contain short messages, undecodable / opid-less headers, missing or
foreign envelopes for EVERY byte string. -/
def Msg.WF (c : SubCfg) (topic : Topic) : Msg → Prop
  | .valid _ h v => HdrsOK h ∧ WT c.d c.fuel c.ty v
  | .malformed p => deliver c p = none ∧ (handle c p).isCrash = false
  | .foreign t _ => t ≠ topic

/-- What reaches the broker. -/
def Msg.pubs (c : SubCfg) (topic : Topic) : Msg → List Published
  | .valid sz h v => match publishPkt c sz h v with
    | .ok p => [⟨topic, p⟩]
    | _ => []
  | .malformed p => [⟨topic, p⟩]
  | .foreign t p => [⟨t, p⟩]

def pubsOf (c : SubCfg) (topic : Topic) (msgs : List Msg) : List Published := msgs.flatMap (Msg.pubs c topic)

/-- The handler invocation a published message is owed. -/
def Msg.expected : Msg → Option Delivery
  | .valid _ h v => some ⟨h, v⟩
  | _ => none

/-- Per message: what the broker hands over is handled without a panic and yields exactly the
owed delivery (payload through `FV.Thrift.roundtrip`, headers through the C04 round trip). -/
theorem msg_handled (c : SubCfg) (topic : Topic) (m : Msg) (hwf : m.WF c topic) :
    (brokerDeliver topic (m.pubs c topic)).filterMap (deliver c) = m.expected.toList ∧
    ∀ p ∈ brokerDeliver topic (m.pubs c topic), (handle c p).isCrash = false := by
  cases m with
  | valid sz h v =>
    obtain ⟨p, hp⟩ := publishPkt_total c sz h v hwf.2
    have hd := handle_published c sz h v p hwf.1 hwf.2 hp
    simp [Msg.pubs, hp, brokerDeliver, Msg.expected, deliver, hd, Outcome.delivery?, Outcome.isCrash]
  | malformed p => simp [Msg.pubs, brokerDeliver, Msg.expected, hwf.1, hwf.2]
  | foreign t p =>
    have hne : ¬ t = topic := hwf
    simp [Msg.pubs, brokerDeliver, hne, Msg.expected]

theorem msgs_handled (c : SubCfg) (topic : Topic) (msgs : List Msg) (hwf : ∀ m ∈ msgs, m.WF c topic) :
    (brokerDeliver topic (pubsOf c topic msgs)).filterMap (deliver c) = msgs.filterMap Msg.expected ∧
    ∀ p ∈ brokerDeliver topic (pubsOf c topic msgs), (handle c p).isCrash = false := by
  induction msgs with
  | nil => simp [pubsOf, brokerDeliver]
  | cons m t ih =>
    have h1 := msg_handled c topic m (hwf m (List.mem_cons_self))
    have h2 := ih (fun x hx => hwf x (List.mem_cons_of_mem _ hx))
    have e : pubsOf c topic (m :: t) = m.pubs c topic ++ pubsOf c topic t := by simp [pubsOf]
    rw [e, brokerDeliver_append, List.filterMap_append, h1.1, h2.1, filterMap_cons_toList]
    exact ⟨rfl, List.forall_mem_append.2 ⟨h1.2, h2.2⟩⟩

/-- ONE WORKER, subscriber stays subscribed: for every list of publishes (valid / malformed /
foreign topic, any payload values of the declared type, any header maps) the handler
invocation list is exactly the valid on-topic messages, once each, in publish order, with the
published payload and header map; the worker is still alive. -/
theorem c07_exactly_once_in_order (c : SubCfg) (topic : Topic) (msgs : List Msg)
    (hwf : ∀ m ∈ msgs, m.WF c topic) :
    (run1 c topic (pubsOf c topic msgs)).log = msgs.filterMap Msg.expected ∧
    (run1 c topic (pubsOf c topic msgs)).alive = true := by
  have h := msgs_handled c topic msgs hwf
  have r := recvAll_log c (brokerDeliver topic (pubsOf c topic msgs)) WState.init rfl h.2
  unfold run1
  refine ⟨?_, r.1⟩
  rw [r.2, h.1]
  rfl

/-- n WORKERS: however the queue is split among the workers (`took`: what each worker took, the
queue being an interleaving of these) and however their handler invocations interleave, the
invocation list is a PERMUTATION of the valid on-topic messages: each exactly once. -/
theorem c07_exactly_once_perm (c : SubCfg) (topic : Topic) (msgs : List Msg)
    (hwf : ∀ m ∈ msgs, m.WF c topic) (took : List (List Packet)) (log : List Delivery)
    (hsplit : Merge took (brokerDeliver topic (pubsOf c topic msgs)))
    (hlog : Merge (took.map fun qs => (WState.init.recvAll c qs).log) log) :
    log.Perm (msgs.filterMap Msg.expected) := by
  have h := msgs_handled c topic msgs hwf
  have hq := merge_perm _ _ hsplit
  have hw : (took.map fun qs => (WState.init.recvAll c qs).log) = took.map (List.filterMap (deliver c)) := by
    apply List.map_congr_left
    intro qs hqs
    have hc : ∀ p ∈ qs, (handle c p).isCrash = false := by
      intro p hp
      apply h.2 p
      exact (hq.mem_iff).mpr (List.mem_flatten.mpr ⟨qs, hqs, hp⟩)
    have := (recvAll_log c qs WState.init rfl hc).2
    rw [this]; rfl
  have hl := merge_perm _ _ hlog
  rw [hw, ← List.filterMap_flatten] at hl
  have hp : (took.flatten.filterMap (deliver c)).Perm ((brokerDeliver topic (pubsOf c topic msgs)).filterMap (deliver c)) :=
    (hq.symm).filterMap _
  rw [h.1] at hp
  exact hl.trans hp

/-- A malformed message changes no other delivery: for ARBITRARY packets before and after it (no
classification needed, only that none of them panics), inserting a message the pipeline rejects
leaves the handler invocation list unchanged and the worker alive — later valid messages are
still delivered. (False before /repo 2c23f24 for the NATS worker: `return` on a short message.) -/
theorem c07_bad_message_isolated (c : SubCfg) (pre post : List Packet) (bad : Packet)
    (hpre : ∀ p ∈ pre, (handle c p).isCrash = false) (hpost : ∀ p ∈ post, (handle c p).isCrash = false)
    (hbad : deliver c bad = none ∧ (handle c bad).isCrash = false) :
    (WState.init.recvAll c (pre ++ bad :: post)).log = (WState.init.recvAll c (pre ++ post)).log ∧
    (WState.init.recvAll c (pre ++ bad :: post)).alive = true := by
  have r1 := recvAll_log c _ WState.init rfl
    (List.forall_mem_append.2 ⟨hpre, List.forall_mem_cons.2 ⟨hbad.2, hpost⟩⟩)
  have r2 := recvAll_log c _ WState.init rfl (List.forall_mem_append.2 ⟨hpre, hpost⟩)
  refine ⟨?_, r1.1⟩
  rw [r1.2, r2.2]
  simp [List.filterMap_append, hbad.1]

/-- NO CAPACITY. After ANY number of rejected messages (`bads`: a list of any length, each one rejected
by the pipeline — short, undecodable, foreign operation, unreadable payload — in any mix), preceded by any
traffic, the next good message is delivered: the log grows by exactly its delivery and the worker is
alive. The model has no counter, queue bound or slot that rejected messages could exhaust; the code must
have none either — tied by the long cases of suite c07rt (more rejected messages of each kind, more
messages in total and more Subscribe/Unsubscribe cycles than twice every channel capacity found in the
source of lib/go and of the stomp client). -/
theorem c07_any_number_rejected_then_delivered (c : SubCfg) (pre bads : List Packet) (good : Packet)
    (dl : Delivery)
    (hpre : ∀ p ∈ pre, (handle c p).isCrash = false)
    (hbad : ∀ p ∈ bads, deliver c p = none ∧ (handle c p).isCrash = false)
    (hgood : handle c good = .delivered dl) :
    (WState.init.recvAll c (pre ++ bads ++ [good])).log = (WState.init.recvAll c pre).log ++ [dl] ∧
    (WState.init.recvAll c (pre ++ bads ++ [good])).alive = true ∧
    (∀ n (bad : Packet), deliver c bad = none ∧ (handle c bad).isCrash = false →
      (WState.init.recvAll c (pre ++ List.replicate n bad ++ [good])).log = (WState.init.recvAll c pre).log ++ [dl]) := by
  have key : ∀ (bs : List Packet), (∀ p ∈ bs, deliver c p = none ∧ (handle c p).isCrash = false) →
      (WState.init.recvAll c (pre ++ bs ++ [good])).log = (WState.init.recvAll c pre).log ++ [dl] ∧
      (WState.init.recvAll c (pre ++ bs ++ [good])).alive = true := by
    intro bs hbs
    have hall : ∀ p ∈ pre ++ bs ++ [good], (handle c p).isCrash = false :=
      List.forall_mem_append.2 ⟨List.forall_mem_append.2 ⟨hpre, fun p hp => (hbs p hp).2⟩,
        by simp [hgood, Outcome.isCrash]⟩
    have r1 := recvAll_log c _ WState.init rfl hall
    have r2 := recvAll_log c pre WState.init rfl hpre
    refine ⟨?_, r1.1⟩
    rw [r1.2, r2.2]
    have hb : bs.filterMap (deliver c) = [] := List.filterMap_eq_nil_iff.mpr fun p hp => (hbs p hp).1
    simp [List.filterMap_append, hb, deliver_some c good dl hgood]
  refine ⟨(key bads hbad).1, (key bads hbad).2, ?_⟩
  intro n bad hb
  exact (key (List.replicate n bad) (fun p hp => by rw [List.eq_of_mem_replicate hp]; exact hb)).1

/-- The classes of malformed messages, for EVERY byte string `data`: shorter than the frame-size
prefix; header block that does not decode (any error of the C04 reader — it never panics, C05);
no `_opid`; nothing / garbage after the header block; an envelope naming another operation.
None of them is delivered and none of them panics. -/
theorem c07_malformed_classes (c : SubCfg) (data : Bytes) (tail : Tail) :
    (data.length < 4 → deliver c ⟨data, tail⟩ = none ∧ (handle c ⟨data, tail⟩).isCrash = false) ∧
    ((∀ h r, unmarshalStream (data.drop 4) ≠ .ok (h, r)) →
        deliver c ⟨data, tail⟩ = none ∧ (handle c ⟨data, tail⟩).isCrash = false) ∧
    ((∀ name es, tail = .msg name es → name ≠ c.op) →
        deliver c ⟨data, tail⟩ = none ∧ (handle c ⟨data, tail⟩).isCrash = false) := by
  refine ⟨?_, ?_, ?_⟩
  · intro hl
    simp [deliver, handle, hl, Outcome.delivery?, Outcome.isCrash]
  · intro hu
    unfold deliver handle
    by_cases hl : data.length < 4
    · simp [hl, Outcome.delivery?, Outcome.isCrash]
    · simp only [hl, if_false]
      unfold callback
      cases hs : unmarshalStream (List.drop 4 data) with
      | ok x => exact absurd hs (hu x.1 x.2)
      | err e => simp [Outcome.delivery?, Outcome.isCrash]
      | panic q => exact absurd hs (unmarshalStream_no_panic _ q)
  · intro ht
    unfold deliver handle
    by_cases hl : data.length < 4
    · simp [hl, Outcome.delivery?, Outcome.isCrash]
    · simp only [hl, if_false]
      unfold callback
      cases hs : unmarshalStream (List.drop 4 data) with
      | ok x =>
        simp only []
        by_cases ho : (x.1.get? opIdHeader).isNone = true
        · simp [ho, Outcome.delivery?, Outcome.isCrash]
        · simp only [ho]
          cases tail with
          | garbage => simp [Outcome.delivery?, Outcome.isCrash]
          | msg name es =>
            have := ht name es rfl
            simp [this, Outcome.delivery?, Outcome.isCrash]
      | err e => simp [Outcome.delivery?, Outcome.isCrash]
      | panic q => exact absurd hs (unmarshalStream_no_panic _ q)

/-- Messages on other topics are never delivered: a publish on a foreign topic does not change
the subscription's state at all (any state, any packet), and removing all foreign publishes from
a published sequence changes nothing the single worker does. -/
theorem c07_foreign_topic_never (c : SubCfg) (topic : Topic) :
    (∀ (s : St) (m : Published), m.topic ≠ topic → step c topic s (.publish m) = some s) ∧
    (∀ (pre post : List Published) (m : Published), m.topic ≠ topic →
        run1 c topic (pre ++ m :: post) = run1 c topic (pre ++ post)) := by
  refine ⟨?_, ?_⟩
  · intro s m hne
    simp [step, hne]
  · intro pre post m hne
    unfold run1
    rw [brokerDeliver_append, brokerDeliver_append]
    congr 2
    simp [brokerDeliver, hne]

/-- What a subscription on `topic` can observe of a global schedule: its own steps and the publishes
on its own topic. -/
def visibleTo (topic : Topic) (as : List Act) : List Act :=
  as.filter fun a => match a with
    | .publish m => decide (m.topic = topic)
    | _ => true

/-- SEVERAL SUBSCRIPTIONS (one provider, one factory): each subscription is its own instance of the
model, so a system of subscriptions is a product of independent instances. For the instance on
`topic`, from ANY state and under ANY schedule, the run is the run over what is visible to it:
publishes on other subscriptions' topics (and anything else foreign) can be removed, added or
reordered among themselves without changing its state — handler invocations, queue, liveness.
Consequently two global schedules that agree on what is visible to A give A the same result,
whatever the traffic on B's topic. (The tie for this is the `pm` lines: 2–4 real subscriptions made
from one FScopeProvider, compared per subscription with independent instances.) -/
theorem c07_subscribers_independent (c : SubCfg) (topic : Topic) :
    (∀ (as : List Act) (s : St), run c topic s as = run c topic s (visibleTo topic as)) ∧
    (∀ (as bs : List Act) (s : St), visibleTo topic as = visibleTo topic bs →
        run c topic s as = run c topic s bs) := by
  have h1 : ∀ (as : List Act) (s : St), run c topic s as = run c topic s (visibleTo topic as) := by
    intro as
    induction as with
    | nil => intro s; rfl
    | cons a t ih =>
      intro s
      by_cases hv : ∃ m, a = .publish m ∧ m.topic ≠ topic
      · -- an invisible action is a publish on another topic: it leaves the state as it is
        obtain ⟨m, rfl, hm⟩ := hv
        have : visibleTo topic (Act.publish m :: t) = visibleTo topic t := by simp [visibleTo, hm]
        rw [this, run, (c07_foreign_topic_never c topic).1 s m hm]
        exact ih s
      · have : visibleTo topic (a :: t) = a :: visibleTo topic t := by
          cases a with
          | publish m => simp [visibleTo, Classical.not_not.1 fun h => hv ⟨m, rfl, h⟩]
          | _ => simp [visibleTo]
        rw [this, run, run]
        cases step c topic s a with
        | none => rfl
        | some s1 => exact ih s1
  exact ⟨h1, fun as bs s h => by rw [h1 as s, h1 bs s, h]⟩

/-- EVERY schedule (publishes, worker steps, Unsubscribe, workers quitting — in any order, any
number of each): the handler invocation list is a sub-list (same order, nothing twice, nothing
invented) of the deliveries owed for what was published on the topic BEFORE the first
Unsubscribe. In particular no handler is ever invoked for a message published after Unsubscribe
returned, whatever `bs` contains. -/
theorem c07_no_delivery_after_unsubscribe (c : SubCfg) (topic : Topic) (as bs : List Act) (s : St)
    (h : run c topic St.init (as ++ Act.unsubscribe :: bs) = some s) :
    s.w.log.Sublist ((brokerDeliver topic (pubsBeforeUnsub as)).filterMap (deliver c)) ∧
    s.unsubReturned = true := by
  constructor
  · obtain ⟨e, hl, hsub⟩ := run_log c topic _ St.init s h
    rw [pubsBeforeUnsub_append_unsub] at hsub
    rw [hl]
    exact (List.sublist_append_left e _).trans hsub
  · -- the run reaches the `unsubscribe`, which sets the flag; nothing later clears it
    rw [run_append] at h
    obtain ⟨s1, -, h⟩ := Option.bind_eq_some_iff.mp h
    obtain ⟨s2, hs, h⟩ := run_cons.mp h
    cases hs
    exact run_unsubReturned c topic bs _ s h rfl

/-- Messages still queued when Unsubscribe is called (`s1.queue`, after any schedule `as`): what is
delivered from then on (`ext`), under any later schedule, is a sub-list of the deliveries owed for
exactly those queued messages — each at most once, in order, and nothing else. -/
theorem c07_inflight_at_most_once (c : SubCfg) (topic : Topic) (as bs : List Act) (s1 s2 : St)
    (h1 : run c topic St.init as = some s1)
    (h2 : run c topic s1 (Act.unsubscribe :: bs) = some s2) :
    ∃ ext, s2.w.log = s1.w.log ++ ext ∧ ext.Sublist (s1.queue.filterMap (deliver c)) := by
  obtain ⟨e, hl, hsub⟩ := run_log c topic _ s1 s2 h2
  refine ⟨e, hl, (List.sublist_append_left e (s2.queue.filterMap (deliver c))).trans ?_⟩
  simpa [pubsBeforeUnsub, brokerDeliver] using hsub

/-- A subscriber that stays subscribed, EVERY schedule of publishes and worker steps in which no
message panics: at every moment `log ++ (owed for what is still queued)` is exactly what is owed
for everything published on the topic so far — so whenever the queue is empty every valid message
has been delivered exactly once, in order (the schedule-level form of `c07_exactly_once_in_order`). -/
theorem c07_exactly_once_any_schedule (c : SubCfg) (topic : Topic) (as : List Act) (s : St)
    (hno : ∀ a ∈ as, a ≠ Act.unsubscribe ∧ a ≠ Act.abandon)
    (hcrash : ∀ a ∈ as, ∀ m, a = Act.publish m → (handle c m.pkt).isCrash = false)
    (h : run c topic St.init as = some s) :
    s.w.log ++ s.queue.filterMap (deliver c) = s.accepted.filterMap (deliver c) ∧ s.w.alive = true :=
  run_lossless c topic as St.init s hno hcrash ⟨rfl, rfl, fun _ hp => by cases hp⟩ h

/-- Publisher side: the handler sees a `_topic_<var>` header equal to the value of every prefix
variable (variable names distinct), and every context header whose name is not a `_topic_` one
unchanged — `pubHeaders` is the map that `c07_exactly_once_in_order` shows the handler receives. -/
theorem c07_topic_headers (ctxReq : Hdrs) (vars : List (Bytes × Bytes))
    (hnd : (vars.map (·.1)).Nodup) :
    (∀ nv ∈ vars, (pubHeaders ctxReq vars).get? (topicHeaderPrefix ++ nv.1) = some nv.2) ∧
    (∀ k, k ∉ vars.map (fun nv => topicHeaderPrefix ++ nv.1) → (pubHeaders ctxReq vars).get? k = ctxReq.get? k) := by
  have hk : Hdrs.keys (vars.map fun nv => (topicHeaderPrefix ++ nv.1, nv.2)) =
      (vars.map (·.1)).map (topicHeaderPrefix ++ ·) := by
    simp only [Hdrs.keys, List.map_map]; rfl
  refine ⟨fun nv hm => ?_, fun k hk' => ?_⟩
  · refine Hdrs.get?_setAll_mem _ _ _ ?_ (List.mem_map.mpr ⟨nv, hm, rfl⟩) _
    rw [hk]
    -- distinct variable names stay distinct behind the common prefix
    exact List.Pairwise.map _ (fun a b hab e => hab (List.append_cancel_left e)) hnd
  · refine Hdrs.get?_setAll_not_mem _ _ ?_ _
    rwa [hk, List.map_map]

/-- `Unsubscribe` RETURNS (STOMP, order as fixed by /repo 40fab6b: broker-side unsubscribe first, the
loop keeps draining `sub.C`): with ANY number `k` of messages in flight before the RECEIPT and any
channel capacity ≥ 1, in every state reachable under any schedule some step is enabled until the
RECEIPT has been processed (no deadlock), and every step strictly decreases the measure
`2·|frames| + |sub.C|` — every maximal run reaches `closed`, i.e. go-stomp's
`Subscription.Unsubscribe` and with it frugal's `Unsubscribe` return. -/
theorem c07_unsubscribe_returns (cap k : Nat) (hcap : 1 ≤ cap) (as : List SAct) (s : Stomp)
    (h : srun (Stomp.waiting cap k false) as = some s) :
    (s.closed = false → ∃ a s', sstep s a = some s') ∧
    (∀ a s', sstep s a = some s' → s'.mu < s.mu) := by
  have hg := good_run as _ s (good_waiting cap k hcap) h
  exact ⟨good_progress s hg, fun a s' hs => sstep_mu s s' a hs⟩

/-- The order before the fix (`close(stopC)` first: nobody drains `sub.C`): with more messages in
flight than `sub.C` holds the system reaches a state that is not closed and has NO enabled step —
`Unsubscribe` never returns (DESIGN §8 row 17; capacity 1, two messages in flight as the smallest
witness; the real capacity is 16, the replayed witness has 40). -/
theorem c07_unsubscribe_stopfirst_counterexample :
    ∃ s, srun (Stomp.waiting 1 2 true) [.handOver] = some s ∧ s.closed = false ∧
      ∀ a, sstep s a = none := by
  refine ⟨⟨1, [true, false], 1, false, false⟩, by decide, rfl, ?_⟩
  intro a
  cases a <;> decide

/-- A definitions table with one struct, a well-typed payload, a publisher header map. -/
def exDefs : Defs := ⟨[], [], [⟨.struct, "m/Event", "Event", [⟨1, .default, "id", .i64, none⟩, ⟨2, .optional, "msg", .string, none⟩]⟩]⟩
def exCfg : SubCfg := ⟨exDefs, 8, "EventCreated", .struct "m/Event"⟩
def exVal : Val := .struct [(1, .int 7), (2, .bytes [104, 105])]
def exHdrs : Hdrs := [(cidHeader, [99]), (opIdHeader, [52, 50]), ([107], [118])]

example : WT exCfg.d exCfg.fuel exCfg.ty exVal := by decide +kernel

example : HdrsOK exHdrs := ⟨by decide, by show 5 + calcSize exHdrs < 2147483648; decide, by decide⟩

/-- The hypotheses of the main theorems are met by a mixed sequence: valid, short, foreign, valid. -/
example : ∀ m ∈ [Msg.valid 0 exHdrs exVal, .malformed ⟨[1, 2], .garbage⟩, .foreign [120] ⟨[], .garbage⟩,
    .malformed ⟨[0, 0, 0, 0, 9], .garbage⟩], m.WF exCfg [116] := by
  intro m hm
  simp only [List.mem_cons, List.mem_nil_iff, or_false] at hm
  rcases hm with h | h | h | h <;> subst h
  · exact ⟨⟨by decide, by show 5 + calcSize exHdrs < 2147483648; decide, by decide⟩, by decide +kernel⟩
  · exact (c07_malformed_classes exCfg [1, 2] .garbage).1 (by decide)
  · show ([120] : Bytes) ≠ [116]; decide
  · exact (c07_malformed_classes exCfg [0, 0, 0, 0, 9] .garbage).2.2 (by intro n es h; cases h)

/-- A schedule in which Unsubscribe races two queued messages is a run of the model. -/
example : (run exCfg [116] St.init [.publish ⟨[116], ⟨[1], .garbage⟩⟩, .publish ⟨[116], ⟨[], .garbage⟩⟩,
    .work, .unsubscribe, .publish ⟨[116], ⟨[2], .garbage⟩⟩, .abandon]).isSome = true := by
  simp [run, step, St.init]

/-- The fixed order reaches `closed` from 3 messages in flight with capacity 2. -/
example : (srun (Stomp.waiting 2 3 false) [.handOver, .handOver, .drain, .handOver, .receipt]).map (·.closed) = some true := by
  decide

/-- **Lock discipline behind the model's atomic steps** (subscriber open mutex): conditions (N) and (L) of
FV/Model/Locks.lean for these mutexes, decided by the kernel on the facts regenerated from lib/go on every check
(spelt out at `FV.C01.c01_lock_discipline`). -/
theorem c07_lock_discipline :
    FV.Locks.ok [7] FV.Generated.Locks.mutexTags FV.Generated.Locks.facts = true :=
  FV.Locks.ok_of_closed FV.Generated.Locks.facts_closed (by decide +kernel)

/-- **Fields are written under their lock** (the subscriber transports' open state): `writesGuarded`
(FV/Model/Locks.lean, "Guarded-by") for this property's locks, on the facts regenerated from lib/go on every
check (spelt out at `FV.C06.c06_fields_written_under_lock`). -/
theorem c07_fields_written_under_lock :
    FV.Locks.writesGuarded [7] FV.Generated.Locks.unguardedUnexpected = true := by decide +kernel

end FV.C07
