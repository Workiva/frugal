/-
C04 — FContext headers survive the wire unchanged in the documented v0 layout.

  "For every map of header names to values (any content, including empty and
  multi-byte UTF-8 strings), the bytes written for a request or response are the
  version byte 0, a 4-byte big-endian total and length-prefixed name/value pairs
  exactly as documented in documentation/protocol.md, and reading them back, from
  a stream or from a complete frame, in Go or with the Python runtime's codec,
  yields the identical map and leaves the Thrift payload that follows untouched."

A header map is a list of pairs `hs` with distinct names (`hs.keys.Nodup`), in
the order Go's map iteration happened to produce; every theorem is for every such
list, hence for every order. `Small hs` is the only size hypothesis: the total
fits the code's int32 arithmetic (5 + Σ(8+|k|+|v|) < 2^31).
-/
import FV.Model.Headers
import FV.Spec.V0Layout
import FV.Proofs.Headers
import FV.Proofs.Context
import FV.Proofs.HeadersTransport

namespace FV.C04
open FV

theorem pairsLayout_marshalPairs (hs : Hdrs) (h : calcSize hs < 4294967296) :
    PairsLayout (marshalPairs hs) hs := by
  induction hs with
  | nil => exact .nil
  | cons kv t ih =>
    obtain ⟨k, v⟩ := kv
    simp only [calcSize] at h
    have := PairsLayout.cons k v (marshalPairs t) t (by omega) (by omega) (ih (by omega))
    simpa [marshalPairs] using this

/-- The bytes written are version 0, big-endian total, length-prefixed pairs — the documented layout. -/
theorem c04_layout (hs : Hdrs) (h : Small hs) : V0Layout (marshal hs) hs [] := by
  unfold Small at h
  refine ⟨marshalPairs hs, pairsLayout_marshalPairs hs (by omega), ?_, ?_⟩
  · rw [marshalPairs_length]; omega
  · simp [marshal, marshalPairs_length]

/-- Reading from a stream returns exactly the map and leaves the payload untouched. -/
theorem c04_stream_roundtrip (hs : Hdrs) (p : Bytes) (hnd : hs.keys.Nodup) (h : Small hs) :
    unmarshalStream (marshal hs ++ p) = .ok (hs, p) := by
  rw [unmarshalStream_marshal hs p h, Hdrs.setAll_nil hs hnd]

/-- Reading from a complete frame (after the frame-size prefix) returns exactly the map. -/
theorem c04_frame_roundtrip (hs : Hdrs) (p : Bytes) (hnd : hs.keys.Nodup) (h : Small hs) :
    headersFromFrame (marshal hs ++ p) = .ok hs := by
  rw [marshal_append, headersFromFrame_v0, unmarshalHeadersFromFrame_marshal hs p h, Hdrs.setAll_nil hs hnd]

/-- Go's map iteration order is irrelevant: any two orders `hs`, `hs'` of the same map
are written to bytes that read back to maps with identical lookups. -/
theorem c04_order_irrelevant (hs hs' : Hdrs) (p : Bytes) (hp : hs.Perm hs') (hnd : hs.keys.Nodup)
    (h : Small hs) (h' : Small hs') :
    ∃ d d', headersFromFrame (marshal hs ++ p) = .ok d ∧ headersFromFrame (marshal hs' ++ p) = .ok d' ∧
      ∀ k, d.get? k = d'.get? k := by
  have hnd' : hs'.keys.Nodup := (hp.map Prod.fst).nodup_iff.mp hnd
  exact ⟨hs, hs', c04_frame_roundtrip hs p hnd h, c04_frame_roundtrip hs' p hnd' h',
    fun k => Hdrs.get?_perm hs hs' hp hnd k⟩

/-- `addHeadersToFrame`: the result is a frame whose size prefix is right, whose
headers are the old ones overridden by the additions, with the payload untouched. -/
theorem c04_add_headers (hs adds : Hdrs) (p : Bytes) (a b c d : UInt8) (hnd : hs.keys.Nodup) (h : Small hs) :
    addHeadersToFrame (a :: b :: c :: d :: (marshal hs ++ p)) adds =
      .ok (be32 ((marshal (hs.setAll adds)).length + p.length) ++ marshal (hs.setAll adds) ++ p) := by
  unfold Small at h
  have hex := unmarshalHeadersFromFrame_marshal hs p h
  rw [Hdrs.setAll_nil hs hnd] at hex
  rw [marshal_append]
  refine addHeadersToFrame_v0 a b c d (calcSize hs) _ p adds hs (toI32_rd32_be32 _ _ (by omega)) ?_ ?_ hex
  · rw [← List.append_assoc, List.drop_left' (by simp only [List.length_append, be32_length, marshalPairs_length]; omega)]
  · simp only [List.length_append, be32_length, marshalPairs_length]; omega

/-- A single added header is what a lookup of the merged map returns; others are unchanged. -/
theorem c04_add_one_lookup (hs : Hdrs) (k v k2 : Bytes) :
    (hs.setAll [(k, v)]).get? k = some v ∧ (k ≠ k2 → (hs.setAll [(k, v)]).get? k2 = hs.get? k2) :=
  ⟨Hdrs.get?_set_same hs k v, fun hne => Hdrs.get?_set_other hs k v k2 hne⟩

/-! Unique decoding: the documented layout determines the map (in wire order) and the payload. -/

theorem pairsLayout_unique : ∀ (body : Bytes) (hs hs' : Hdrs),
    PairsLayout body hs → PairsLayout body hs' → hs = hs' := by
  intro body hs hs' h1
  induction h1 generalizing hs' with
  | nil =>
    intro h2
    cases h2 with
    | nil => rfl
  | cons k v bs t hk hv _ ih =>
    intro h2
    generalize hb : be32 k.length ++ k ++ be32 v.length ++ v ++ bs = body at h2
    cases h2 with
    | nil => simp [be32] at hb
    | cons k' v' bs' t' hk' hv' hrest =>
      simp only [List.append_assoc] at hb
      obtain ⟨rfl, hr⟩ := prefixed_inj hk hk' hb
      obtain ⟨rfl, rfl⟩ := prefixed_inj hv hv' hr
      rw [ih t' hrest]

theorem c04_unique_decoding (b : Bytes) (hs hs' : Hdrs) (p p' : Bytes)
    (h1 : V0Layout b hs p) (h2 : V0Layout b hs' p') : hs = hs' ∧ p = p' := by
  obtain ⟨body, l1, n1, rfl⟩ := h1
  obtain ⟨body', l2, n2, e⟩ := h2
  obtain ⟨rfl, ep⟩ := prefixed_inj n1 n2 (by simpa only [List.append_assoc] using (List.cons.inj e).2)
  exact ⟨pairsLayout_unique body hs hs' l1 l2, ep⟩

/-- The block written for the empty map: version byte 0 and a total of 0. -/
theorem c04_empty_marshal : marshal [] = [0, 0, 0, 0, 0] := by decide

/-! Non-vacuity: concrete non-trivial maps meet the hypotheses. -/
example : Small [([102, 111, 111], [98, 97, 114]), ([95, 99, 105, 100], [])] ∧
    (Hdrs.keys [([102, 111, 111], [98, 97, 114]), ([95, 99, 105, 100], [])]).Nodup := by
  constructor
  · unfold Small; decide
  · decide

/-! ### The FProtocol layer: `ReadRequestHeader` / `ReadResponseHeader` on ANY written map

The codec theorems above are about `marshalHeaders` / `unmarshalHeaders`; what a handler or a caller
actually sees is the FContext that `FProtocol.ReadRequestHeader` / `ReadResponseHeader` build from the
decoded map (model: FV.Model.Context, shared with C09). C09 states this for contexts built by
`NewFContext`; here the map is ARBITRARY (a hand-built frame, a non-Go peer, no `_cid`, no `_timeout`):
the reader adds nothing that was not on the wire and drops nothing except the wire `_opid`, which the
receiving side replaces by a fresh one by design. -/

/-- `ReadRequestHeader` over the bytes written for ANY map with distinct names that carries an `_opid`:
the context's request headers are exactly the written ones with `_opid` replaced by the fresh op id,
its response headers are the reply ids, and the payload that follows is untouched. -/
theorem c04_read_request_header (hs : Hdrs) (p o : Bytes) (ctr : Nat)
    (hnd : hs.keys.Nodup) (h : Small hs) (ho : hs.get? opIdHeader = some o) :
    readRequestHeader (marshal hs ++ p) ctr =
      .ok (⟨hs.without opIdHeader ++ [(opIdHeader, natDigits (ctr + 1))],
            replyIds o ((hs.get? cidHeader).getD [])⟩, p) :=
  readRequestHeader_ok _ p hs ctr _ (c04_stream_roundtrip hs p hnd h) (serverCtx_eq hs (ctr + 1) o hnd ho)

/-- Read as a map: every name other than `_opid` has exactly the written value — nothing is injected
(no default `_timeout`, no generated `_cid`) and nothing is lost. -/
theorem c04_read_request_header_identical (hs : Hdrs) (p o : Bytes) (ctr : Nat)
    (hnd : hs.keys.Nodup) (h : Small hs) (ho : hs.get? opIdHeader = some o) :
    ∃ c, readRequestHeader (marshal hs ++ p) ctr = .ok (c, p) ∧
      (∀ k, k ≠ opIdHeader → c.req.get? k = hs.get? k) ∧
      c.req.keys.Perm ((hs.without opIdHeader).keys ++ [opIdHeader]) := by
  refine ⟨_, c04_read_request_header hs p o ctr hnd h ho, ?_, ?_⟩
  · intro k hk
    -- the fresh `_opid` was appended to a map without that name: the same as setting it
    dsimp only
    rw [← Hdrs.set_fresh _ _ _ (Hdrs.not_mem_without hs opIdHeader), Hdrs.get?_set_other _ _ _ _ hk.symm,
      Hdrs.get?_without_other _ _ _ hk.symm]
  · simp [Hdrs.keys]

/-- `ReadResponseHeader(ctx)` over the bytes written for ANY map with distinct names: every written
header except `_opid` is on the caller's context afterwards with the written value, headers the context
held under other names are kept, the context's own `_opid` entry and its request headers are not
touched, and the payload is untouched. -/
theorem c04_read_response_header (c : Ctx) (hs : Hdrs) (p : Bytes) (hnd : hs.keys.Nodup) (h : Small hs) :
    ∃ c', readResponseHeader c (marshal hs ++ p) = .ok (c', p) ∧ c'.req = c.req ∧
      (∀ k v, k ≠ opIdHeader → hs.get? k = some v → c'.resp.get? k = some v) ∧
      (∀ k, hs.get? k = none → c'.resp.get? k = c.resp.get? k) ∧
      c'.resp.get? opIdHeader = c.resp.get? opIdHeader := by
  refine ⟨mergeResponse c hs, readResponseHeader_ok c _ p hs (c04_stream_roundtrip hs p hnd h), rfl, ?_, ?_, ?_⟩
  · intro k v hk hg
    rw [mergeResponse_get? c hs hnd, if_neg (Ne.symm hk), hg]; rfl
  · intro k hg
    rw [mergeResponse_get? c hs hnd, hg]
    split <;> rfl
  · rw [mergeResponse_get? c hs hnd, if_pos rfl]

/-- Non-vacuity for the FProtocol theorems: a hand-built request map WITHOUT `_cid` and `_timeout`
(one user header and `_opid`) meets the hypotheses. -/
example : Small [([120], [121]), (opIdHeader, [55])] ∧
    (Hdrs.keys [([120], [121]), (opIdHeader, [55])]).Nodup ∧
    Hdrs.get? [([120], [121]), (opIdHeader, [55])] opIdHeader = some [55] := by
  refine ⟨by unfold Small; decide, by decide, by decide⟩

/-! ### The transport under the FProtocol: any chunking, any advisory `RemainingBytes`

`FProtocolFactory` composes with "any existing Thrift transports"; `readHeader` sees the transport through
`io.ReadFull` only (model: FV.Model.HeadersTransport). A transport is ANY way of handing the carried bytes
out in pieces plus ANY function reporting `RemainingBytes()`; what is read does not depend on either. The
differential suite `c04tr` ties this to the real code over TMemoryBuffer, frugal's and thrift's framed
transports, buffered, zlib, pipe-fed stream transports and hand-written ones reporting 0 / 1 / exact /
max-uint64, with blocks on both sides of every size constant of lib/go. -/

/-- What `readHeader` returns over a transport is what the stream reader returns on the carried bytes: two
transports that carry the same bytes — in whatever pieces, reporting whatever as remaining — give the same
result (map, error class, and the bytes left for the payload reader). -/
theorem c04_read_independent_of_chunking_and_remaining (t t' : RdTransport)
    (h : t.chunks.flatten = t'.chunks.flatten) :
    readHeaderT t = readHeaderT t' ∧ readHeaderT t = unmarshalStream t.chunks.flatten ∧
      (∀ ctr, readRequestHeaderT t ctr = readRequestHeaderT t' ctr) ∧
      (∀ c, readResponseHeaderT c t = readResponseHeaderT c t') := by
  have e : t.bytes = t'.bytes := h
  refine ⟨by rw [readHeaderT_eq, readHeaderT_eq, e], readHeaderT_eq t, ?_, ?_⟩
  · intro ctr; rw [readRequestHeaderT_eq, readRequestHeaderT_eq, e]
  · intro c; rw [readResponseHeaderT_eq, readResponseHeaderT_eq, e]

/-- Every header map that can be written is read back identically over ANY transport that carries the
written bytes followed by the payload — whatever the size of the block (below 2^31), the pieces, the
reported remaining byte count — and the payload is left untouched. -/
theorem c04_transport_roundtrip (hs : Hdrs) (p : Bytes) (chunks : List Bytes) (remaining : List Bytes → Nat)
    (hnd : hs.keys.Nodup) (h : Small hs) (hc : chunks.flatten = marshal hs ++ p) :
    readHeaderT ⟨chunks, remaining⟩ = .ok (hs, p) := by
  rw [readHeaderT_eq]
  show unmarshalStream chunks.flatten = _
  rw [hc, c04_stream_roundtrip hs p hnd h]

/-- The same at the FProtocol layer: `ReadRequestHeader` over any transport. -/
theorem c04_transport_read_request_header (hs : Hdrs) (p o : Bytes) (ctr : Nat) (chunks : List Bytes)
    (remaining : List Bytes → Nat) (hnd : hs.keys.Nodup) (h : Small hs) (ho : hs.get? opIdHeader = some o)
    (hc : chunks.flatten = marshal hs ++ p) :
    readRequestHeaderT ⟨chunks, remaining⟩ ctr =
      .ok (⟨hs.without opIdHeader ++ [(opIdHeader, natDigits (ctr + 1))],
            replyIds o ((hs.get? cidHeader).getD [])⟩, p) := by
  rw [readRequestHeaderT_eq]
  show readRequestHeader chunks.flatten ctr = _
  rw [hc, c04_read_request_header hs p o ctr hnd h ho]

/-- Non-vacuity: the bytes of a two-header map and a payload cut into single bytes with an empty piece in
between, on a transport that reports 0 bytes remaining, and the same bytes in one piece on a transport that
reports "unknown": both read back the map and leave the payload. -/
example :
    let hs : Hdrs := [([120], [121, 122]), (opIdHeader, [55])]
    let b := marshal hs ++ [1, 2, 3]
    readHeaderT ⟨b.map (fun x => [x]) ++ [[]], fun _ => 0⟩ = .ok (hs, [1, 2, 3]) ∧
    readHeaderT ⟨[b.take 7, [], b.drop 7], fun _ => 1⟩ = .ok (hs, [1, 2, 3]) ∧
    readHeaderT ⟨[b], fun _ => 18446744073709551615⟩ = .ok (hs, [1, 2, 3]) := by
  intro hs b
  have hnd : hs.keys.Nodup := by decide
  have hsm : Small hs := by unfold Small; decide
  refine ⟨c04_transport_roundtrip hs [1, 2, 3] _ _ hnd hsm ?_, c04_transport_roundtrip hs [1, 2, 3] _ _ hnd hsm ?_,
    c04_transport_roundtrip hs [1, 2, 3] _ _ hnd hsm ?_⟩
  · decide
  · decide
  · decide

end FV.C04
