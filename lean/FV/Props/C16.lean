/-
C16 — Middleware intercepts every call exactly once, in the declared order.

  "For every list of service middleware supplied to a provider, client,
  processor, publisher or subscriber, each RPC, publish and subscriber delivery
  passes through every middleware exactly once, nested in a fixed order
  (later-listed wraps earlier, provider middleware wraps constructor
  middleware), each seeing the arguments the caller passed and the results the
  handler returned, and a change a middleware makes to arguments, results or
  error is exactly what the other side observes."

Model: FV/Model/Middleware.lean (`compose` = the loop of composeMiddleware, a
left fold in list order; `wrap i pre post` = a middleware that calls `next`
exactly once — hypothesis H of the property; `newMethod`, `addMiddleware`,
the generated wiring `ctor ++ provider`, one shared processor map for an
`extends` chain). Vocabulary of the statements: FV/Spec/Middleware.lean.
All statements are for middleware lists of ANY length and arbitrary argument
and result types `α`, `ρ` (`ρ` includes the error return) and arbitrary
rewrites `pre : α → α`, `post : ρ → ρ`.

What the code does (read, modelled, tied by the correspondence suite c16):
* composeMiddleware: `for _, m := range middleware { handler = m(handler) }` —
  the LAST listed middleware is outermost.
* generated client / publisher / subscriber: `append(ctor, provider.GetMiddleware()...)`
  — provider middleware after, hence around, constructor middleware. A generated
  processor has no provider: constructor middleware only.
* `Method.AddMiddleware(m)`: `handler = m(handler)` — outermost of what is there,
  the same as having been listed last. `FBaseProcessor.AddMiddleware` does that to
  every function in the one map an `extends` chain shares.
-/
import FV.Model.Middleware
import FV.Spec.Middleware
import FV.Proofs.Middleware

namespace FV.C16
open FV FV.Mw

variable {α ρ : Type}

/-- The whole observation of one invocation through `n` wrapping middleware:
`enter (n−1) … enter 0, base, exit 0 … exit (n−1)` with the values each one saw
(`enters`/`exits` in Spec/Middleware.lean), and the caller's result. -/
theorem c16_trace (ws : List (W α ρ)) (f : α → ρ) (a : α) :
    (newMethod f (wraps ws)).invoke a =
      (postAll ws (f (preAll ws a)),
       enters 0 ws a ++ [Ev.base (preAll ws a)] ++ exits 0 ws (f (preAll ws a))) := by
  simp [newMethod, Method.invoke, wraps, run_wrapsFrom, baseHandler]

/-- The nesting order alone: later-listed wraps earlier, each label once. -/
theorem c16_trace_order (ws : List (W α ρ)) (f : α → ρ) (a : α) :
    ((newMethod f (wraps ws)).invoke a).2.map Ev.tag =
      (List.range ws.length).reverse.map Tag.enter ++ [Tag.base] ++
      (List.range ws.length).map Tag.exit := by
  rw [c16_trace]
  simp [enters_tags, exits_tags, Ev.tag]

/-- Each middleware is entered exactly once per invocation and left exactly once,
no other label occurs, and the proxied function runs exactly once. -/
theorem c16_exactly_once (ws : List (W α ρ)) (f : α → ρ) (a : α) (i : Nat) :
    let t := ((newMethod f (wraps ws)).invoke a).2
    t.countP (isEnter i) = (if i < ws.length then 1 else 0) ∧
    t.countP (isExit i) = (if i < ws.length then 1 else 0) ∧
    t.countP isBase = 1 := by
  simp only [c16_trace, List.countP_append, count_enter_enters, count_exit_enters,
    count_enter_exits, count_exit_exits, count_base_enters, count_base_exits]
  simp [isEnter, isExit, isBase]

/-- Rewrites compose: the proxied function sees `pre₀ (… (preₙ₋₁ a))` (and nothing
else reaches it), the caller sees `postₙ₋₁ (… (post₀ (f …)))`. -/
theorem c16_rewrites_compose (ws : List (W α ρ)) (f : α → ρ) (a : α) :
    let out := (newMethod f (wraps ws)).invoke a
    out.1 = postAll ws (f (preAll ws a)) ∧
    (∀ x, Ev.base x ∈ out.2 → x = preAll ws a) ∧ Ev.base (preAll ws a) ∈ out.2 := by
  simp only [c16_trace]
  refine ⟨trivial, ?_, by simp⟩
  intro x hx
  simp only [List.mem_append, List.mem_singleton, Ev.base.injEq, enters, exits, List.mem_map] at hx
  rcases hx with (⟨_, _, h⟩ | h) | ⟨_, _, h⟩
  · cases h
  · exact h
  · cases h

/-- What middleware `i` itself observes: the caller's arguments as rewritten by the
later-listed ones, and the handler's results as rewritten by the earlier-listed ones. -/
theorem c16_each_sees (ws : List (W α ρ)) (f : α → ρ) (a : α) (i : Nat) (hi : i < ws.length) :
    let t := ((newMethod f (wraps ws)).invoke a).2
    Ev.enter i (preAll (ws.drop (i + 1)) a) ∈ t ∧
    Ev.exit i (postAll (ws.take i) (f (preAll ws a))) ∈ t := by
  simp only [c16_trace, enters, exits]
  constructor
  · simp only [List.mem_append, List.mem_map, List.mem_reverse, List.mem_range]
    exact Or.inl (Or.inl ⟨i, hi, by simp⟩)
  · simp only [List.mem_append, List.mem_map, List.mem_range]
    exact Or.inr ⟨i, hi, by simp⟩

/-- Observing middleware (no rewrite) all see the arguments the caller passed and
the results the handler returned, and the caller gets the handler's results. -/
theorem c16_observers_see_original (ws : List (W α ρ)) (f : α → ρ) (a : α)
    (hobs : ∀ w ∈ ws, w.pre = id ∧ w.post = id) :
    (newMethod f (wraps ws)).invoke a =
      (f a, (List.range ws.length).reverse.map (fun i => Ev.enter i a) ++ [Ev.base a] ++
            (List.range ws.length).map (fun i => Ev.exit i (f a))) := by
  have hpre : ∀ l : List (W α ρ), (∀ w ∈ l, w ∈ ws) → preAll l a = a :=
    fun l hl => preAll_observers l a fun w hw => (hobs w (hl w hw)).1
  have hpost : ∀ l : List (W α ρ), (∀ w ∈ l, w ∈ ws) → postAll l (f a) = f a :=
    fun l hl => postAll_observers l (f a) fun w hw => (hobs w (hl w hw)).2
  rw [c16_trace, hpre ws (fun _ h => h), hpost ws (fun _ h => h)]
  simp only [enters, exits, Nat.zero_add]
  congr 2
  · congr 1
    exact List.map_congr_left fun i _ => by rw [hpre _ fun w hw => List.mem_of_mem_drop hw]
  · exact List.map_congr_left fun i _ => by rw [hpost _ fun w hw => List.mem_of_mem_take hw]

/-- Provider middleware wraps constructor middleware — for ARBITRARY middleware
functions: composing with the generated list `ctor ++ provider` is composing the
provider's list around the handler already composed with the constructor's. The
same list is used by generated clients, publishers and subscribers. -/
theorem c16_provider_outermost (f : α → ρ) (ctor prov : List (Middleware α ρ)) :
    (newMethod f (clientWiring ctor prov)).handler = compose (newMethod f ctor).handler prov ∧
    (newMethod f (publisherWiring ctor prov)).handler = compose (newMethod f ctor).handler prov ∧
    (genSubscribe f ctor prov).handler = compose (newMethod f ctor).handler prov := by
  simp [newMethod, genSubscribe, clientWiring, publisherWiring, subscriberWiring, compose_append]

/-- …and what that means for wrapping middleware: the trace of a call through the
generated wiring is the provider's enters (last-listed first), then the complete
trace of the constructor-only method on the provider-rewritten arguments, then the
provider's exits; labels `0 … c−1` are the constructor's, `c …` the provider's. -/
theorem c16_provider_outermost_trace (ctor prov : List (W α ρ)) (f : α → ρ) (a : α) :
    let inner := (newMethod f (wraps ctor)).invoke (preAll prov a)
    (newMethod f (clientWiring (wraps ctor) (wrapsFrom ctor.length prov))).invoke a =
      (postAll prov inner.1,
       enters ctor.length prov a ++ inner.2 ++ exits ctor.length prov inner.1) := by
  simp only [newMethod, Method.invoke, clientWiring, compose_append, run_wrapsFrom]

/-- The generated list is exactly "all constructor middleware, then all provider
middleware" as one labelled list: the theorems above about `wraps` apply to it. -/
theorem c16_wiring_is_one_list (ctor prov : List (W α ρ)) :
    clientWiring (wraps ctor) (wrapsFrom ctor.length prov) = wraps (ctor ++ prov) := by
  simp [clientWiring, wraps, wrapsFrom_append]

/-- `Method.AddMiddleware m` wraps outermost of what is already there (for arbitrary
middleware functions) — exactly as if `m` had been listed last in `NewMethod`;
several calls nest in call order. -/
theorem c16_add_middleware (f : α → ρ) (ms added : List (Middleware α ρ)) (m : Middleware α ρ) :
    ((newMethod f ms).addMiddleware m).handler = m (newMethod f ms).handler ∧
    (newMethod f ms).addMiddleware m = newMethod f (ms ++ [m]) ∧
    (newMethod f ms).addAll added = newMethod f (ms ++ added) :=
  ⟨rfl, addAll_newMethod f ms [m], addAll_newMethod f ms added⟩

/-- Generated processor of an `extends` chain (root first), constructor middleware
`ctor`, then `AddMiddleware` for each of `added` on the (child) processor: EVERY
function of the chain — the parent's too, they share one FBaseProcessor — is the
proxied function composed with `ctor ++ added`: constructor middleware innermost,
added middleware around it in call order, each exactly once. A name defined at two
levels dispatches to the child's function. Unknown names dispatch to nothing. -/
theorem c16_processor_add_middleware (chain : List (List (Op α ρ)))
    (ctor added : List (Middleware α ρ)) (k : String) :
    ((genProcessor chain ctor).addAll added).find k =
      (lastOp chain.flatten k).map (fun f => newMethod f (ctor ++ added)) := by
  rw [find_addAll, genProcessor_flatten, find_register ctor k chain.flatten [] none (by simp [ProcMap.find])]
  simp [lastOp, Option.map_map, Function.comp_def, addAll_newMethod]

/-- Every method of a generated client — of the service itself and of every service
it extends — and every operation of a generated publisher is composed with
`ctor ++ provider`. -/
theorem c16_client_publisher_methods (chain : List (List (Op α ρ))) (ops : List (Op α ρ))
    (ctor prov : List (Middleware α ρ)) :
    (∀ km ∈ genClient chain ctor prov, ∃ op ∈ chain.flatten, km = (op.1, newMethod op.2 (ctor ++ prov))) ∧
    (∀ km ∈ genPublisher ops ctor prov, ∃ op ∈ ops, km = (op.1, newMethod op.2 (ctor ++ prov))) := by
  refine ⟨fun km h => mem_genClient chain ctor prov km h, ?_⟩
  intro km h
  simp only [genPublisher, List.mem_map] at h
  obtain ⟨op, hop, rfl⟩ := h
  exact ⟨op, hop, rfl⟩

/-- The list a generated subscriber composes with at `Subscribe<Op>` time is the one
it was constructed with, whatever the caller does with its own slice afterwards —
when the constructor appends onto a COPY of the variadic slice (the form the
generator emits since the C16 fix). -/
theorem c16_subscriber_list_stable {τ : Type} (arr : List τ) (k : Nat) (provA provB : List τ) :
    twoSubscribers .copy arr k provA provB = subscriberWiring (arr.take k) provA := by
  simp [twoSubscribers, ctorAppend, SubList.read, subscriberWiring]

/-- With the plain `append(middleware, provider.GetMiddleware()...)` on the variadic
slice (the form emitted before the fix) that is false: a caller slice with spare
capacity is shared, and constructing a second subscriber replaces the FIRST
subscriber's provider middleware (here label 10) by the second's (label 20). -/
theorem c16_subscriber_alias_counterexample :
    twoSubscribers .alias [0, 1, 2, 99] 3 [10] [20] = [0, 1, 2, 20] ∧
    twoSubscribers .alias [0, 1, 2, 99] 3 [10] [20] ≠ subscriberWiring [0, 1, 2] [10] := by
  decide

/-- The base handler's conversion of the proxied function's return values is the
identity on dynamic values: a concrete-typed value keeps its type — a nil `*T` is a
`*T` — and an interface-typed value (`error`) is what it holds; in particular a
function of declared signature `(R, error)` yields `R` in position 0, nil or not. -/
theorem c16_base_conversion_identity (R : String) (k : VKind) (n : Bool) (p : String) (e : DVal) :
    baseConvert [SVal.concrete R k n p, SVal.iface e] = [DVal.val R k n p, e] ∧
    (DVal.val R k n p).hasType R = true := by
  simp [baseConvert, SVal.toIface, DVal.hasType]

/-- Observing middleware are the identity on Results INCLUDING dynamic types: every
one of them, and the caller, gets exactly the boxed values of what the function returned
(and sees the arguments, with their dynamic types, as the caller passed them). -/
theorem c16_observers_identity_dynamic (ws : List (W (List DVal) (List DVal)))
    (h : List DVal → List SVal) (a : List DVal) (hobs : ∀ w ∈ ws, w.pre = id ∧ w.post = id) :
    (newMethod (baseFnDyn h) (wraps ws)).invoke a =
      (baseConvert (h a),
       (List.range ws.length).reverse.map (fun i => Ev.enter i a) ++ [Ev.base a] ++
       (List.range ws.length).map (fun i => Ev.exit i (baseConvert (h a)))) :=
  c16_observers_see_original ws (baseFnDyn h) a hobs

/-- Well-typed Results never make a generated consumer panic. -/
theorem c16_welltyped_consumed (R : String) (isErr : String → Bool) (ret : List DVal)
    (hw : WellTyped R isErr ret) :
    consumeProcessor R isErr ret ≠ .panic ∧ consumeClient R isErr ret ≠ .panic := by
  obtain ⟨r0, e, rfl, h0, he⟩ := hw
  rcases he with rfl | ⟨t, k, n, p, rfl, ht⟩
  · simp [consumeProcessor, consumeClient, h0]
  · simp [consumeProcessor, consumeClient, h0, ht]

/-- The final consumer — the generated processor's `ret[0].(R)`, the generated client's
`ret[0].(R)` / `ret[1].(error)` — does not panic for ANYTHING a function of the
declared signature `(R, error)` can return (nil pointers, nil slices, typed-nil errors
included), through any number of middleware that observe or replace results by values
of the declared types. -/
theorem c16_consumer_never_panics (R : String) (isErr : String → Bool)
    (ws : List (W α (List DVal))) (h : α → List SVal) (a : α)
    (hsig : ∀ x, ∃ k n p e, h x = [SVal.concrete R k n p, SVal.iface e] ∧
      (e = .untyped ∨ ∃ t k' n' p', e = .val t k' n' p' ∧ isErr t = true))
    (hpres : ∀ w ∈ ws, ∀ r, WellTyped R isErr r → WellTyped R isErr (w.post r)) :
    consumeProcessor R isErr ((newMethod (baseFnDyn h) (wraps ws)).invoke a).1 ≠ .panic ∧
    consumeClient R isErr ((newMethod (baseFnDyn h) (wraps ws)).invoke a).1 ≠ .panic := by
  apply c16_welltyped_consumed
  rw [c16_trace]
  have hbase : ∀ x, WellTyped R isErr (baseFnDyn h x) := by
    intro x
    obtain ⟨k, n, p, e, hx, he⟩ := hsig x
    exact ⟨.val R k n p, e, by simp [baseFnDyn, hx, baseConvert, SVal.toIface], by simp [DVal.hasType], he⟩
  exact postAll_preserves (WellTyped R isErr) ws _ hpres (hbase _)

/-- Why the conversion must not "normalise" nil pointers to the untyped nil: a
struct-returning function answering `(nil, nil)` would make the generated processor's
`ret[0].(*T)` panic (with the real conversion it succeeds), and a typed-nil `*Exc`
returned as `error` — an error today, and kept so — would silently become success. -/
theorem c16_nil_normalising_counterexample :
    let isErr := fun t => t == "*Exc"
    let notFound := [SVal.concrete "*T" .ptr true "", SVal.iface .untyped]
    let typedNilErr := [SVal.concrete "*T" .ptr false "{1}", SVal.iface (.val "*Exc" .ptr true "")]
    consumeProcessor "*T" isErr (baseConvert notFound) = .success ∧
    consumeProcessor "*T" isErr (baseConvertNilNorm notFound) = .panic ∧
    consumeProcessor "*T" isErr (baseConvert typedNilErr) = .errPath ∧
    consumeProcessor "*T" isErr (baseConvertNilNorm typedNilErr) = .success := by
  decide

/-- One later step — another construction from the same slice (its `append` may write
into the shared backing array), the caller overwriting or appending, `AddMiddleware` on
ANOTHER object — leaves an existing object's chain as it is. -/
theorem c16_step_keeps_chain (s : Life α ρ) (st : LifeStep α ρ) (i : Nat) (hi : i < s.objs.length)
    (hst : st.addsTo i = false) : (s.step st).objs[i]? = s.objs[i]? ∧ i < (s.step st).objs.length := by
  cases st with
  | construct f al prov => simp [Life.step, List.getElem?_append_left hi]; omega
  | write j m => simp [Life.step, hi]
  | push m => simp [Life.step, hi]
  | add j m =>
    have hj : j ≠ i := by simpa [LifeStep.addsTo] using hst
    simp [Life.step, hj, hi]

/-- The chain of an object is a function of the argument VALUES at construction —
`arr[:k]` as it was then, followed by the provider's list — and no sequence of later
mutations of the caller's array, other constructions or `AddMiddleware` calls on other
objects ever changes it; first use plays no role. -/
theorem c16_chain_fixed_at_construction (s : Life α ρ) (f : α → ρ) (al : Bool)
    (prov : List (Middleware α ρ)) (later : List (LifeStep α ρ))
    (hno : ∀ st ∈ later, st.addsTo s.objs.length = false) :
    ((s.step (.construct f al prov)).run later).objs[s.objs.length]? =
      some (newMethod f (s.arr.take s.k ++ prov)) := by
  have key : ∀ (steps : List (LifeStep α ρ)) (t : Life α ρ) (i : Nat), i < t.objs.length →
      (∀ st ∈ steps, st.addsTo i = false) → (t.run steps).objs[i]? = t.objs[i]? := by
    intro steps
    induction steps with
    | nil => intro t i _ _; rfl
    | cons st tl ih =>
      intro t i hi h
      have h1 := c16_step_keeps_chain t st i hi (h st (by simp))
      simp only [Life.run, List.foldl_cons] at ih ⊢
      rw [ih (t.step st) i h1.2 (fun x hx => h x (by simp [hx])), h1.1]
  rw [key later _ s.objs.length (by simp [Life.step]) hno]
  simp [Life.step]

/-- `AddMiddleware` on the object itself wraps the chain fixed at construction,
whether or not the object has been used before (the model has no "first use"). -/
theorem c16_add_after_construction (s : Life α ρ) (i : Nat) (o : Method α ρ) (m : Middleware α ρ)
    (ho : s.objs[i]? = some o) : (s.step (.add i m)).objs[i]? = some (o.addMiddleware m) := by
  simp [Life.step, ho]

/-! ### Non-vacuity: concrete lists with n ≥ 3, rewriting and observing -/

/-- Tagging behaviours over strings: `pre` appends `a<i>`, `post` appends `r<i>`. -/
def tagW (i : Nat) : W String String := ⟨fun s => s ++ s!"a{i}", fun s => s ++ s!"r{i}"⟩

example :
    (newMethod (fun s => s ++ "|") (wraps [tagW 0, W.observe, tagW 2, tagW 3])).invoke "x" =
      ("xa3a2a0|r0r2r3",
       [.enter 3 "x", .enter 2 "xa3", .enter 1 "xa3a2", .enter 0 "xa3a2", .base "xa3a2a0",
        .exit 0 "xa3a2a0|", .exit 1 "xa3a2a0|r0", .exit 2 "xa3a2a0|r0", .exit 3 "xa3a2a0|r0r2"]) := by
  decide +kernel

/-- Provider (labels 2, 3) around constructor (labels 0, 1), then AddMiddleware (label 4). -/
example :
    (((newMethod (fun s => s ++ "|")
        (clientWiring (wraps [tagW 0, tagW 1]) (wrapsFrom 2 [tagW 2, tagW 3]))).addMiddleware
        (wrap 4 (tagW 4).pre (tagW 4).post)).invoke "x").2.map Ev.tag =
      [.enter 4, .enter 3, .enter 2, .enter 1, .enter 0, .base,
       .exit 0, .exit 1, .exit 2, .exit 3, .exit 4] := by
  decide

/-- Values, non-vacuously: a struct-returning function answers `(nil, nil)`; three
middleware — observe, replace the result by another `*T`, replace it by the typed nil —
satisfy the hypotheses of `c16_consumer_never_panics`, and the processor consumer succeeds. -/
example :
    let nilT : DVal := .val "*T" .ptr true ""
    let ws : List (W Unit (List DVal)) :=
      [⟨id, id⟩, ⟨id, fun r => .val "*T" .ptr false "{7}" :: r.drop 1⟩, ⟨id, fun r => nilT :: r.drop 1⟩]
    let h : Unit → List SVal := fun _ => [.concrete "*T" .ptr true "", .iface .untyped]
    ((newMethod (baseFnDyn h) (wraps ws)).invoke ()).1 = [nilT, .untyped] ∧
    consumeProcessor "*T" (fun t => t == "*Exc") ((newMethod (baseFnDyn h) (wraps ws)).invoke ()).1 = .success := by
  decide

/-- Hypothesis H is needed: a middleware that calls `next` twice (retry) makes the
inner middleware run twice. -/
example :
    ((compose (baseHandler (fun s : String => s)) [wrap 0 id id, wrapTwice 1, wrap 2 id id]) "x").2.countP
      (isEnter 0) = 2 := by
  decide

/-- An `extends` chain: parent {ping, get}, child {get, put}; three constructor
middleware, one added afterwards. -/
def chainPm : ProcMap String String :=
  (genProcessor [[("ping", fun s => s ++ "P"), ("get", fun s => s ++ "G")],
                 [("get", fun s => s ++ "g"), ("put", fun s => s ++ "p")]]
    (wraps [tagW 0, tagW 1, tagW 2])).addAll (wrapsFrom 3 [tagW 3])

/-- The parent's function gets all four, in order. -/
example :
    chainPm.invoke "ping" "x" =
      some ("xa3a2a1a0Pr0r1r2r3",
        [.enter 3 "x", .enter 2 "xa3", .enter 1 "xa3a2", .enter 0 "xa3a2a1", .base "xa3a2a1a0",
         .exit 0 "xa3a2a1a0P", .exit 1 "xa3a2a1a0Pr0", .exit 2 "xa3a2a1a0Pr0r1", .exit 3 "xa3a2a1a0Pr0r1r2"]) := by
  decide +kernel

/-- `get` is the child's function; an unknown name dispatches to nothing. -/
example : (chainPm.invoke "get" "x").map Prod.fst = some "xa3a2a1a0gr0r1r2r3" ∧
    (chainPm.invoke "nope" "x").isNone = true := by
  decide +kernel

end FV.C16
