/-
C14 — The server answers every two-way request exactly once with a well-formed reply.

  "For every request frame with decodable headers (known or unknown method,
  well-formed or malformed arguments, handler success, declared exception,
  undeclared error or application exception) the server produces exactly one
  reply frame carrying the request's op id and the appropriate REPLY or EXCEPTION
  message (UNKNOWN_METHOD, PROTOCOL_ERROR, INTERNAL_ERROR or the handler's own
  type), and replies of concurrently processed requests are never interleaved or
  corrupted. A request that names an unknown method or fails in its handler never
  affects later requests on the same connection, and no request of any kind
  affects requests arriving on other connections or as other messages."

Model: `FV.Proc.process` = FBaseProcessor.Process + the emitted per-method processor
function; `FV.Proc.processAll` / `processConn` = a request sequence (on one connection);
`FV.Proc.step` = goroutines writing the chunks of their replies to one output
protocol under `writeMu` (Model/Processor.lean). The theorems quantify over every process
map, every request, every handler outcome, every number of goroutines, every reply content
and every schedule (action list).

What is NOT claimed here (and is not in the statement): a ONEWAY method whose arguments are
unreadable or whose handler fails does get an EXCEPTION message from the emitted code
(`c14_oneway_no_reply_counterexample`); after malformed arguments on a framed shared
connection the unread rest of the frame is not discarded (the isolation sentence names
unknown methods and failing handlers; the correspondence exercises malformed arguments with
one transport per request, and the position-preserving "required field missing" on a shared one).
-/
import FV.Model.Processor
import FV.Proofs.Processor
import FV.Model.Server
import FV.Proofs.Server
import FV.Proofs.Headers
import FV.Proofs.LockFacts

namespace FV.C14
open FV FV.Proc

/-- "A request frame with decodable headers": the header block decodes to `h`, carries the op
id `opid`, and the Thrift message envelope after it is readable. -/
def Decodable (rq : Request) (h : Hdrs) (opid : Bytes) : Prop :=
  rq.hdr = .ok h ∧ h.get? opIdHeader = some opid ∧ rq.envOk = true

/-- Two-way: the method is unknown to the processor, or registered as a non-oneway method.
(The message type the client wrote — CALL or ONEWAY — is not what the server goes by.) -/
def TwoWay (pm : ProcMap) (rq : Request) : Prop :=
  ∀ ms, pm.find? rq.method = some ms → ms.oneway = false

/-- The table of the statement for a healthy output: message kind, exception type and body of THE reply. -/
def expectedHealthy (pm : ProcMap) (rq : Request) (ho : HOutcome) : MsgKind × Int × PayloadTag :=
  match pm.find? rq.method with
  | none => (.exception, exUnknownMethod, .appEx)
  | some ms =>
    if rq.args.readable = false then (.exception, exProtocolError, .appEx) else
    match ho with
    | .success v => (.reply, 0, .success v)
    | .declared f => if f ∈ ms.throws then (.reply, 0, .declared f) else (.exception, exInternalError, .appEx)
    | .appEx t => (.exception, t, .appEx)
    | .other => (.exception, exInternalError, .appEx)

/-- … and on a bounded output buffer that a REPLY does not fit: RESPONSE_TOO_LARGE instead. -/
def expected (pm : ProcMap) (rq : Request) (ho : HOutcome) : MsgKind × Int × PayloadTag :=
  if rq.out = .tooSmall ∧ (expectedHealthy pm rq ho).1 = .reply then (.exception, exResponseTooLarge, .appEx)
  else expectedHealthy pm rq ho

/-- The output can carry an answer: the peer is there, and the message fits — a REPLY that
does not fit a bounded buffer is replaced by the (small) RESPONSE_TOO_LARGE exception, but the
UNKNOWN_METHOD message echoes the method name and has no smaller substitute. -/
def Answerable (pm : ProcMap) (rq : Request) : Prop :=
  rq.out = .healthy ∨ (rq.out = .tooSmall ∧ pm.find? rq.method ≠ none)

/-- The whole answer of `process` to an answerable two-way request, as an equation: one message, built
from the row that `expected` gives, and `Process` returns nil. -/
theorem process_answer (pm : ProcMap) (rq : Request) (ho : HOutcome) (h : Hdrs) (opid : Bytes)
    (hd : Decodable rq h opid) (h2 : TwoWay pm rq) (hout : Answerable pm rq) :
    process pm rq ho =
      ([⟨opid, respHdrs h opid, (expected pm rq ho).1, (expected pm rq ho).2.1, rq.method, 0, (expected pm rq ho).2.2⟩],
        .ok ()) := by
  unfold process expected
  simp only [hd.1, hd.2.1, hd.2.2]
  cases hf : pm.find? rq.method with
  | none =>
    have : rq.out = .healthy := hout.resolve_right fun h1 => h1.2 hf
    simp [this, expectedHealthy, hf, mkException]
  | some ms =>
    have hw := h2 ms hf
    -- what the method writes on a healthy output is the row of `expectedHealthy`
    have hm : (if (!rq.args.readable) = true then [mkException h opid rq.method exProtocolError]
          else methodReply ms h opid rq.method ho) =
        [⟨opid, respHdrs h opid, (expectedHealthy pm rq ho).1, (expectedHealthy pm rq ho).2.1, rq.method, 0,
          (expectedHealthy pm rq ho).2.2⟩] := by
      unfold expectedHealthy
      rw [hf]
      cases hr : rq.args.readable with
      | false => rfl
      | true =>
        cases ho with
        | success v => simp [methodReply, hw, mkReply]
        | declared f => by_cases hm : f ∈ ms.throws <;> simp [methodReply, hw, hm, mkReply, mkException]
        | appEx t => rfl
        | other => rfl
    simp only [hm]
    -- … and a bounded buffer replaces a REPLY by RESPONSE_TOO_LARGE
    rcases hout with hc | ⟨hc, -⟩
    · simp [hc]
    · by_cases hk : (expectedHealthy pm rq ho).1 = .reply <;> simp [hc, hk, mkException]

/-- Every two-way request with decodable headers — known or unknown method, readable or
unreadable, skippable or unskippable arguments, every handler outcome — gets exactly one
message; it carries the request's op id (and correlation id), the request's method name, and
kind / exception type / body are those of the table. `Process` returns nil (the server loop
goes on to the next request). -/
theorem c14_exactly_one_reply (pm : ProcMap) (rq : Request) (ho : HOutcome) (h : Hdrs) (opid : Bytes)
    (hd : Decodable rq h opid) (h2 : TwoWay pm rq) (hout : Answerable pm rq) :
    ∃ r, (process pm rq ho).1 = [r] ∧ (process pm rq ho).2 = .ok () ∧
      r.opId = opid ∧ r.hdrs.get? opIdHeader = some opid ∧ r.hdrs = respHdrs h opid ∧
      r.method = rq.method ∧ r.seqid = 0 ∧
      (r.kind, r.exType, r.payload) = expected pm rq ho := by
  rw [process_answer pm rq ho h opid hd h2 hout]
  exact ⟨_, rfl, rfl, rfl, respHdrs_get_opid h opid, rfl, rfl, rfl, rfl⟩

/-- Oversized reply on a bounded output buffer, spelled out: the caller of a known two-way
method whose REPLY (return value or declared exception) does not fit gets exactly one message,
the RESPONSE_TOO_LARGE exception with its op id — not the REPLY, and nothing besides. -/
theorem c14_too_large_one_exception (pm : ProcMap) (rq : Request) (ho : HOutcome) (ms : MethodSpec) (h : Hdrs) (opid : Bytes)
    (hd : Decodable rq h opid) (hf : pm.find? rq.method = some ms) (hw : ms.oneway = false)
    (hr : rq.args.readable = true) (hout : rq.out = .tooSmall)
    (hrep : (∃ v, ho = .success v) ∨ (∃ f, ho = .declared f ∧ f ∈ ms.throws)) :
    process pm rq ho = ([mkException h opid rq.method exResponseTooLarge], .ok ()) := by
  obtain ⟨hh, ho', he⟩ := hd
  rcases hrep with ⟨v, rfl⟩ | ⟨f, rfl, hm⟩ <;>
    simp [process, methodReply, mkReply, *]

/-- A peer that is gone (a write or the flush of the reply fails) gets nothing, and the error
does not leave `Process` for a known method; for an unknown method it is returned. -/
theorem c14_dead_peer (pm : ProcMap) (rq : Request) (ho : HOutcome) (hout : rq.out = .fails) :
    (process pm rq ho).1 = [] := by
  -- every exit of `process` writes nothing, or writes under a condition on `rq.out` that `fails` refutes
  unfold process
  simp only [hout]
  repeat' split
  all_goals rfl

/-- The correlation id travels back: the reply has a `_cid` header exactly when the request had
a non-empty one, with that value. -/
theorem c14_reply_correlation_id (h : Hdrs) (opid : Bytes) :
    (respHdrs h opid).get? cidHeader =
      (match h.get? cidHeader with | some c => if c = [] then none else some c | none => none) := by
  have hne : opIdHeader ≠ cidHeader := by decide
  unfold respHdrs
  cases hc : h.get? cidHeader with
  | none => simp [Hdrs.get?, hne]
  | some c => by_cases he : c = [] <;> simp [Hdrs.get?, hne, he]

/-- What the client wrote as message type and sequence id has no influence on the answer. -/
theorem c14_type_and_seqid_ignored (pm : ProcMap) (rq : Request) (ho : HOutcome) (t : Nat) (sq : Int) :
    process pm { rq with msgType := t, seqid := sq } ho = process pm rq ho := rfl

/-- A request whose header block does not decode, has no op id, or whose envelope is
unreadable produces no output at all and `Process` returns the error (the connection-oriented
server closes that connection, the message-oriented ones drop that message). -/
theorem c14_undecodable_no_output (pm : ProcMap) (rq : Request) (ho : HOutcome)
    (hu : (∀ h, rq.hdr ≠ .ok h) ∨ (∃ h, rq.hdr = .ok h ∧ h.get? opIdHeader = none) ∨ rq.envOk = false) :
    (process pm rq ho).1 = [] ∧ (process pm rq ho).2 ≠ .ok () := by
  unfold process
  cases hh : rq.hdr with
  | err e => simp
  | panic p => simp
  | ok h =>
    cases ho' : h.get? opIdHeader with
    | none => simp [ho']
    | some opid =>
      rcases hu with hu | ⟨h', hh', hn⟩ | hu
      · exact absurd hh (hu h)
      · rw [hh] at hh'; cases hh'; rw [ho'] at hn; cases hn
      · simp [ho', hu]

/-- A oneway method that is processed normally (arguments readable, handler succeeds) is not
answered. -/
theorem c14_oneway_no_reply (pm : ProcMap) (rq : Request) (ms : MethodSpec) (v : Bytes) (h : Hdrs) (opid : Bytes)
    (hd : Decodable rq h opid) (hf : pm.find? rq.method = some ms) (hw : ms.oneway = true)
    (hr : rq.args.readable = true) :
    process pm rq (.success v) = ([], .ok ()) := by
  obtain ⟨hh, ho', he⟩ := hd
  cases hout : rq.out <;> simp [process, hh, ho', he, hf, hr, methodReply, hw, hout]

/-- For every handler outcome a oneway request produces at most one message, and if one, an
EXCEPTION carrying the request's op id. -/
theorem c14_oneway_at_most_one (pm : ProcMap) (rq : Request) (ho : HOutcome) (ms : MethodSpec) (h : Hdrs) (opid : Bytes)
    (hd : Decodable rq h opid) (hf : pm.find? rq.method = some ms) (hw : ms.oneway = true) :
    (process pm rq ho).1 = [] ∨
      ∃ r, (process pm rq ho).1 = [r] ∧ r.kind = .exception ∧ r.opId = opid ∧ r.method = rq.method := by
  unfold process
  simp only [hd.1, hd.2.1, hd.2.2, hf]
  generalize hmsgs : (if (!rq.args.readable) = true then [mkException h opid rq.method exProtocolError]
    else methodReply ms h opid rq.method ho) = msgs
  have hm : msgs = [] ∨ ∃ t, msgs = [mkException h opid rq.method t] := by
    rw [← hmsgs]
    cases rq.args.readable with
    | false => exact .inr ⟨_, rfl⟩
    | true => exact methodReply_oneway ms h opid rq.method ho hw
  rcases hm with rfl | ⟨t, rfl⟩ <;> cases rq.out <;> simp [mkException]

/-- "A oneway request is never answered" is FALSE of the emitted code: when the handler of a
oneway method fails, `SendError` writes an EXCEPTION message (generator.go, the oneway variant
of generateMethodProcessor keeps the error arm). Not part of the statement of C14, recorded. -/
theorem c14_oneway_no_reply_counterexample :
    ∃ (pm : ProcMap) (rq : Request) (ms : MethodSpec) (h : Hdrs) (opid : Bytes),
      Decodable rq h opid ∧ pm.find? rq.method = some ms ∧ ms.oneway = true ∧ rq.args.readable = true ∧
      (process pm rq .other).1.length = 1 :=
  ⟨[([102], ⟨true, []⟩)], ⟨.ok [(opIdHeader, [49])], true, [102], 4, 0, ⟨true, true⟩, .healthy⟩, ⟨true, []⟩,
    [(opIdHeader, [49])], [49],
    ⟨rfl, rfl, rfl⟩, rfl, rfl, rfl, rfl⟩

/-- Isolation. In a sequence of requests handled by one processor (same connection or not),
the answer to request `k` is `process` of request `k` and its handler outcome alone: whatever
came before it — unknown methods, failing handlers, anything — and whatever comes after does
not change it. -/
theorem c14_isolation (pm : ProcMap) (pre post : List (Request × HOutcome)) (r : Request × HOutcome) :
    (processAll pm (pre ++ r :: post))[pre.length]? = some (process pm r.1 r.2) := by
  simp [processAll]

/-- Same statement, comparing two histories: the answer to `r` after `pre₁` equals the answer
to `r` after `pre₂` (in particular after no history at all). -/
theorem c14_isolation_histories (pm : ProcMap) (pre₁ pre₂ post₁ post₂ : List (Request × HOutcome))
    (r : Request × HOutcome) :
    (processAll pm (pre₁ ++ r :: post₁))[pre₁.length]? = (processAll pm (pre₂ ++ r :: post₂))[pre₂.length]? := by
  rw [c14_isolation, c14_isolation]

/-- "A request that names an unknown method or fails in its handler never affects later
requests on the same connection", part 1: such a request — decodable, and either an unknown
method whose arguments `Skip` consumes, or a known method whose arguments `Read` consumes —
leaves the connection's input exactly at the next request and lets the server loop go on,
WHATEVER its handler does and (known method) whatever becomes of its reply on the output (success, declared exception, application exception, any error). -/
theorem c14_failures_keep_position (pm : ProcMap) (rq : Request) (ho : HOutcome) (h : Hdrs) (opid : Bytes)
    (hd : Decodable rq h opid)
    (ha : match pm.find? rq.method with
          | none => rq.args.skippable = true ∧ rq.out = .healthy
          | some _ => rq.args.readable = true) :
    positionKept pm rq = true ∧ (process pm rq ho).2 = .ok () := by
  obtain ⟨hh, ho', he⟩ := hd
  unfold positionKept process
  simp only [hh, ho', he]
  cases hf : pm.find? rq.method with
  | none => rw [hf] at ha; simp [ha.1, ha.2]
  | some ms => rw [hf] at ha; cases hout : rq.out <;> simp [ha]

/-- Part 2, on ONE connection (`processConn` = the server's per-connection loop): if every
earlier request on the connection was consumed exactly and handled without a transport-level
error, the answer to the next request is `process` of that request alone. -/
theorem c14_isolation_connection (pm : ProcMap) (pre post : List (Request × HOutcome)) (r : Request × HOutcome)
    (hpre : ∀ q ∈ pre, (process pm q.1 q.2).2 = .ok () ∧ positionKept pm q.1 = true) :
    (processConn pm (pre ++ r :: post))[pre.length]? = some (process pm r.1 r.2) := by
  rw [processConn_append pm pre _ hpre, List.getElem?_append_right (by simp), List.length_map, Nat.sub_self]
  exact processConn_head pm r post

/-- Parts 1 and 2 together: after ANY history of well-formed requests — unknown methods,
handlers that fail in every possible way, oneway calls — the next request on the same
connection gets exactly the answer it would have got alone. -/
theorem c14_isolation_same_connection (pm : ProcMap) (pre post : List (Request × HOutcome)) (r : Request × HOutcome)
    (hpre : ∀ q ∈ pre, ∃ h opid, Decodable q.1 h opid ∧
      (match pm.find? q.1.method with
       | none => q.1.args.skippable = true ∧ q.1.out = .healthy
       | some _ => q.1.args.readable = true)) :
    (processConn pm (pre ++ r :: post))[pre.length]? = some (process pm r.1 r.2) ∧
    (processConn pm [r])[0]? = some (process pm r.1 r.2) := by
  constructor
  · apply c14_isolation_connection
    intro q hq
    obtain ⟨h, opid, hd, ha⟩ := hpre q hq
    have := c14_failures_keep_position pm q.1 q.2 h opid hd ha
    exact ⟨this.2, this.1⟩
  · exact processConn_head pm r []

/-- Every request of a sequence is answered (or not) on its own: one entry per request. -/
theorem c14_processAll_length (pm : ProcMap) (rs : List (Request × HOutcome)) :
    (processAll pm rs).length = rs.length := by simp [processAll]

/-- No interleaving. For every number of goroutines, every reply content (any chunking) and
every schedule: what the shared output has received is the concatenation of WHOLE replies of
distinct goroutines, followed by a prefix of the reply of the goroutine that holds `writeMu`
right now (nothing if nobody holds it). -/
theorem c14_no_interleaving (n : Nat) (reply : Nat → List Bytes) (acts : List Action) (s : Sys)
    (h : run (Sys.init n reply) acts = some s) :
    ∃ (whole : List Nat) (part : Bytes),
      s.out = (whole.map fun g => (reply g).flatten).flatten ++ part ∧
      whole.Nodup ∧ (∀ g ∈ whole, g < n) ∧
      (match s.holder with
       | none => part = []
       | some g => g ∉ whole ∧ ∃ w, w ≤ (reply g).length ∧ part = ((reply g).take w).flatten) := by
  have hi := inv_run (inv_init n reply) h
  refine ⟨s.fin, s.partialOut, hi.out_eq, hi.fin_nodup, ?_, ?_⟩
  · intro g hg
    exact (hi.each g).lt_n (by rw [(hi.each g).fin_done.1 hg]; nofun)
  · cases hh : s.holder with
    | none => simp [Sys.partialOut, hh]
    | some g =>
      obtain ⟨w, hw, hle⟩ := hi.holder_holding g hh
      refine ⟨fun hm => ?_, w, hle, ?_⟩
      · have := (hi.each g).fin_done.1 hm; rw [hw] at this; cases this
      · simp [Sys.partialOut, hh, hw, hi.reply_eq]

/-- When all n goroutines have finished, the output is the concatenation of all n whole
replies, each exactly once, in the order in which the mutex was released. -/
theorem c14_all_done_complete (n : Nat) (reply : Nat → List Bytes) (acts : List Action) (s : Sys)
    (h : run (Sys.init n reply) acts = some s) (hall : ∀ g, g < n → s.st g = .done) :
    s.out = (s.fin.map fun g => (reply g).flatten).flatten ∧ s.fin.Perm (List.range n) := by
  have hi := inv_run (inv_init n reply) h
  constructor
  · have hp : s.partialOut = [] := by
      unfold Sys.partialOut
      cases hh : s.holder with
      | none => rfl
      | some g =>
        obtain ⟨w, hw, _⟩ := hi.holder_holding g hh
        rw [hall g ((hi.each g).lt_n (by rw [hw]; nofun))] at hw; cases hw
    simpa [hp] using hi.out_eq
  · apply (List.perm_ext_iff_of_nodup hi.fin_nodup List.nodup_range).2
    intro g
    rw [List.mem_range, (hi.each g).fin_done]
    exact ⟨fun hd => (hi.each g).lt_n (by rw [hd]; nofun), hall g⟩

/-- The mutex never wedges the writers: in every reachable state in which some goroutine has
not finished, some action is enabled. -/
theorem c14_no_deadlock (n : Nat) (reply : Nat → List Bytes) (acts : List Action) (s : Sys)
    (h : run (Sys.init n reply) acts = some s) (g : Nat) (hg : g < n) (hnd : s.st g ≠ .done) :
    ∃ a, (step s a).isSome = true := by
  have hi := inv_run (inv_init n reply) h
  cases hh : s.holder with
  | some g' =>
    obtain ⟨w, hw, hle⟩ := hi.holder_holding g' hh
    rw [← hi.reply_eq] at hle
    by_cases hlt : w < (s.reply g').length
    · exact ⟨.writeChunk g', by simp [step, hh, hw, List.getElem?_eq_getElem hlt]⟩
    · have : w = (s.reply g').length := by omega
      exact ⟨.unlock g', by simp [step, hh, hw, this]⟩
  | none =>
    have hidle : s.st g = .idle := by
      cases hst : s.st g with
      | idle => rfl
      | done => exact absurd hst hnd
      | holding w => have := (hi.each g).holder w hst; rw [hh] at this; cases this
    exact ⟨.lock g, by simp [step, hi.n_eq, hg, hh, hidle]⟩

/-- A concrete process map and requests of every kind satisfy the hypotheses. -/
def exPm : ProcMap := ProcMap.add (ProcMap.add [] [112] ⟨false, [1]⟩) [102] ⟨true, []⟩
def exHdrs : Hdrs := [(opIdHeader, [52, 50]), (cidHeader, [99])]
def exReq (m : Bytes) (readable : Bool) : Request := ⟨.ok exHdrs, true, m, 1, 7, ⟨readable, readable⟩, .healthy⟩

example : Decodable (exReq [112] true) exHdrs [52, 50] := ⟨rfl, rfl, rfl⟩
example : TwoWay exPm (exReq [112] true) := by
  intro ms h; cases h; rfl
example : TwoWay exPm (exReq [120] false) := by
  intro ms h; cases h
-- known method, success: a REPLY with the op id and the correlation id
example : (process exPm (exReq [112] true) (.success [1])).1 =
    [⟨[52, 50], [(opIdHeader, [52, 50]), (cidHeader, [99])], .reply, 0, [112], 0, .success [1]⟩] := by
  decide
-- unknown method with arguments that cannot even be skipped: still answered, UNKNOWN_METHOD
example : ((process exPm (exReq [120] false) .other).1.map fun r => (r.kind, r.exType)) = [(.exception, 1)] := by
  decide
-- the REPLY does not fit the bounded output buffer: one RESPONSE_TOO_LARGE exception
example : ((process exPm { exReq [112] true with out := .tooSmall } (.success [1])).1.map fun r => (r.kind, r.exType, r.opId)) =
    [(.exception, 100, [52, 50])] := by
  decide
example : Answerable exPm { exReq [112] true with out := .tooSmall } :=
  Or.inr ⟨rfl, by decide⟩
-- declared exception vs. the same exception from a method that does not declare it
example : ((process exPm (exReq [112] true) (.declared 1)).1.map fun r => (r.kind, r.payload)) = [(.reply, .declared 1)] := by
  decide
example : ((process exPm (exReq [112] true) (.declared 2)).1.map fun r => (r.kind, r.exType)) = [(.exception, 6)] := by
  decide

-- one connection: unknown method, then a failing handler, then a oneway call, then `ping`:
-- the last one is answered as if it were alone
example : (processConn exPm [(exReq [120] true, .other), (exReq [112] true, .appEx 9), (exReq [102] true, .success []),
      (exReq [112] true, .success [7])])[3]? = some (process exPm (exReq [112] true) (.success [7])) :=
  (c14_isolation_same_connection exPm
    [(exReq [120] true, .other), (exReq [112] true, .appEx 9), (exReq [102] true, .success [])] []
    (exReq [112] true, .success [7]) (by
      intro q hq
      refine ⟨exHdrs, [52, 50], ?_⟩
      simp only [List.mem_cons, List.not_mem_nil, or_false] at hq
      rcases hq with rfl | rfl | rfl <;>
        exact ⟨⟨rfl, rfl, rfl⟩, by simp [exPm, exReq, ProcMap.add, ProcMap.find?]⟩)).1

/-- Two goroutines, replies of two and one chunks; a complete schedule, and one that the mutex
forbids (goroutine 1 writing while goroutine 0 holds the lock is not a run). -/
def exReply : Nat → List Bytes := fun g => if g = 0 then [[1, 2], [3]] else [[9]]
example : (run (Sys.init 2 exReply)
    [.lock 1, .writeChunk 1, .unlock 1, .lock 0, .writeChunk 0, .writeChunk 0, .unlock 0]).map (fun s => (s.out, s.fin)) =
    some ([9, 1, 2, 3], [1, 0]) := by
  decide
example : (run (Sys.init 2 exReply) [.lock 0, .writeChunk 0, .writeChunk 1]).isNone = true := by
  decide
example : (run (Sys.init 2 exReply) [.lock 0, .writeChunk 0, .lock 1]).isNone = true := by
  decide

/-- The frames the server's framed reader recovers do not depend on how the byte stream reaches
it: for EVERY chunking (socket reads, 4096-byte refills of the bufio.Reader, one-byte dribble, a
cut inside a size prefix) the reader fed chunk by chunk yields exactly the frames — and the
unconsumed tail — of the whole stream. -/
theorem c14_frames_chunking_independent (maxLen : Nat) (chunks : List Bytes) :
    Chunked.feedAll maxLen (.pending []) chunks = Chunked.deframe maxLen chunks.flatten := by
  simpa using Chunked.feedAll_eq maxLen [] chunks (Chunked.deframe_nil maxLen)

/-- … so k requests pipelined on a connection, each written as one frame, reach `Process` as
exactly those k frames in order, however the stream is cut, with nothing left over (`4294967296` = 2^32: a
frame's size fits its four-byte prefix). -/
theorem c14_pipelined_frames_recovered (maxLen : Nat) (fs : List Bytes) (chunks : List Bytes)
    (hl : ∀ f ∈ fs, f.length ≤ maxLen ∧ f.length < 4294967296)
    (hc : chunks.flatten = Chunked.enframe fs) :
    Chunked.feedAll maxLen (.pending []) chunks = (fs, .pending []) := by
  rw [c14_frames_chunking_independent, hc]
  have := Chunked.deframe_enframe maxLen fs [] hl
  simpa [Chunked.deframe_nil] using this

/-- Two chunkings of the same stream give the same frames. -/
theorem c14_frames_same_for_all_chunkings (maxLen : Nat) (c₁ c₂ : List Bytes) (h : c₁.flatten = c₂.flatten) :
    Chunked.feedAll maxLen (.pending []) c₁ = Chunked.feedAll maxLen (.pending []) c₂ := by
  rw [c14_frames_chunking_independent, c14_frames_chunking_independent, h]

/-- "No request of any kind affects requests arriving on other connections", through the accept
loop: with one goroutine per accepted connection, after ANY schedule the state of connection i
(requests still to read, what was answered, whether its loop is still running) is its own
initial state stepped as often as it was scheduled — no other connection's requests enter. -/
theorem c14_connections_independent (pm : ProcMap) (conns : List (List (Request × HOutcome))) (sched : List Nat) (i : Nat) :
    (srvRun pm (conns.map ConnSt.init) sched)[i]? =
      (conns[i]?).map fun rs => iter (connStep pm) (sched.count i) (ConnSt.init rs) := by
  refine (modRun_conn (connStep pm) _ sched i).trans ?_
  simp [List.getElem?_map, Option.map_map, Function.comp_def]

/-- … and once connection i has been scheduled often enough, what it was answered is
`processConn` of its own requests: the answer sequence it would have got as the only client. -/
theorem c14_connection_served_alone (pm : ProcMap) (conns : List (List (Request × HOutcome))) (sched : List Nat)
    (i : Nat) (rs : List (Request × HOutcome)) (hi : conns[i]? = some rs) (hn : rs.length ≤ sched.count i) :
    ((srvRun pm (conns.map ConnSt.init) sched)[i]?).map (·.out) = some (processConn pm rs) := by
  rw [c14_connections_independent, hi]
  simp [ConnSt.init, iter_conn pm rs [] _ hn]

-- non-vacuity: a stream of two frames cut inside the second size prefix
example : Chunked.feedAll 100 (.pending []) [[0, 0, 0, 2, 7, 8, 0, 0], [0], [1, 9]] = ([[7, 8], [9]], .pending []) :=
  c14_pipelined_frames_recovered 100 [[7, 8], [9]] _ (by simp) (by simp [Chunked.enframe, be32])
-- two connections, the second scheduled first: each is answered as if alone
example : ((srvRun exPm ([[(exReq [120] true, .other)], [(exReq [112] true, .success [7])]].map ConnSt.init) [1, 0, 1])[1]?).map (·.out) =
    some (processConn exPm [(exReq [112] true, .success [7])]) :=
  c14_connection_served_alone exPm _ [1, 0, 1] 1 _ rfl (by decide)

/-- What a handler reads back after setting its key is its OWN value, whatever the map held
before: the part of a reply that is built from ephemeral properties is built from the
request's own data. -/
theorem c14_eph_reads_own_value (st : Hdrs) (s : EphScript) :
    (ephRequest st s).1.back = some s.val := by
  simp [ephRequest, Hdrs.get?_set_same]

/-- A request that is the first on its protocol (every HTTP request, every NATS message, the
first request of a connection) finds no property: nothing of any other request is visible. -/
theorem c14_eph_fresh_per_protocol (s : EphScript) :
    (ephRequest [] s).1.entry = none ∧ (ephRequest [] s).1.count = 1 := by
  simp [ephRequest, Hdrs.get?, Hdrs.set]

/-- Across connections, for EVERY schedule of the per-connection goroutines: the properties a
connection's handlers see, and its map, are those of its own requests stepped as often as the
connection was scheduled — no other connection's requests enter. -/
theorem c14_eph_connections_independent (conns : List (List EphScript)) (sched : List Nat) (i : Nat) :
    (ephRun (conns.map EphConn.init) sched)[i]? =
      (conns[i]?).map fun c => iter ephStep (sched.count i) (EphConn.init c) := by
  unfold ephRun
  rw [modRun_conn]; simp [List.getElem?_map, Option.map_map, Function.comp_def]

/-- … and once scheduled often enough, what connection i's handlers saw is `ephProtocol` of its
own scripts from an empty map: exactly what they would see as the only client. -/
theorem c14_eph_connection_alone (conns : List (List EphScript)) (sched : List Nat) (i : Nat) (c : List EphScript)
    (hi : conns[i]? = some c) (hn : c.length ≤ sched.count i) :
    ((ephRun (conns.map EphConn.init) sched)[i]?).map (·.seen) = some (ephProtocol [] c).1 := by
  rw [c14_eph_connections_independent, hi]
  simp [EphConn.init, iter_eph c [] [] _ hn]

/-- What the code does WITHIN one connection (stated, not claimed as isolation): requests read
from the same FProtocol share its map, so a later request finds what an earlier one on that
connection left. -/
theorem c14_eph_shared_within_connection (s₁ s₂ : EphScript) (h : s₁.key = s₂.key) :
    ((ephProtocol [] [s₁, s₂]).1.map (·.entry)) = [none, some s₁.val] := by
  simp [ephProtocol, ephRequest, Hdrs.get?, Hdrs.set, h]

-- two connections using the same key, interleaved: each sees only its own values
example : ((ephRun ([[⟨[1], [10]⟩, ⟨[1], [11]⟩], [⟨[1], [20]⟩]].map EphConn.init) [0, 1, 0])[1]?).map (·.seen) =
    some [⟨none, some [20], 1⟩] :=
  c14_eph_connection_alone [[⟨[1], [10]⟩, ⟨[1], [11]⟩], [⟨[1], [20]⟩]] [0, 1, 0] 1 [⟨[1], [20]⟩] rfl (by decide)

/-- After ANY request — whatever its handler returns, and a panic of user code at ANY position
(arguments' Read, middleware before / after, handler, result's Write after any number of
writes) — the write mutex is free, and the request itself did not wait for it. -/
theorem c14_panic_leaves_no_lock_held (pm : ProcMap) (r : MuReq) :
    (serveOne .deferred pm false r).2 = false ∧ (serveOne .deferred pm false r).1 ≠ .blocked := by
  unfold serveOne
  cases r.panicAt with
  | none => simp
  | some p =>
    by_cases h1 : panicReached pm r p = true
    · by_cases h2 : p.underMutex = true <;> simp [h1, h2]
    · simp [h1]

/-- Serving from a free mutex is compositional. -/
theorem c14_serveAll_append (pm : ProcMap) (pre : List MuReq) (post : List MuReq) :
    serveAll .deferred pm false (pre ++ post) = serveAll .deferred pm false pre ++ serveAll .deferred pm false post := by
  induction pre with
  | nil => rfl
  | cons r t ih =>
    simp only [List.cons_append, serveAll, (c14_panic_leaves_no_lock_held pm r).1, ih]

/-- … hence after ANY history on ONE shared processor (other connections, other messages; outcomes ok,
error, panic at any position) a request that does not itself panic gets exactly the answer
`process` gives it alone. -/
theorem c14_after_any_outcome_next_is_answered (pm : ProcMap) (pre post : List MuReq) (r : MuReq)
    (hr : r.panicAt = none) :
    (serveAll .deferred pm false (pre ++ r :: post))[pre.length]? = some (.returned (process pm r.rq r.ho)) := by
  rw [c14_serveAll_append, List.getElem?_append_right (by rw [serveAll_length]; omega), serveAll_length]
  simp [serveAll, serveOne, hr]

/-- Why the release must be deferred: with `Lock(); write; Unlock()` instead, ONE request whose
result panics while being written leaves the mutex locked and the next request waits for ever. -/
theorem c14_manual_unlock_would_wedge :
    serveAll .manual exPm false
      [⟨exReq [112] true, .success [1], some (.resultWrite 2)⟩, ⟨exReq [112] true, .success [2], none⟩] =
      [.panicked, .blocked] := by
  decide

-- non-vacuity: panics at every position followed by an ordinary request
example : (serveAll .deferred exPm false
      [⟨exReq [112] true, .success [1], some (.resultWrite 2)⟩, ⟨exReq [112] true, .other, some .handler⟩,
       ⟨exReq [112] true, .success [1], some .argsRead⟩, ⟨exReq [112] true, .success [2], none⟩])[3]? =
    some (.returned (process exPm (exReq [112] true) (.success [2]))) :=
  c14_after_any_outcome_next_is_answered exPm
    [⟨exReq [112] true, .success [1], some (.resultWrite 2)⟩, ⟨exReq [112] true, .other, some .handler⟩,
     ⟨exReq [112] true, .success [1], some .argsRead⟩] [] ⟨exReq [112] true, .success [2], none⟩ rfl

/-- **Lock discipline behind the model's atomic steps** (processor write mutex, NATS server send mutex): conditions
(N) and (L) of FV/Model/Locks.lean for these mutexes, decided by the kernel on the facts regenerated from lib/go
on every check (spelt out at `FV.C01.c01_lock_discipline`). -/
theorem c14_lock_discipline :
    FV.Locks.ok [5, 6] FV.Generated.Locks.mutexTags FV.Generated.Locks.facts = true :=
  FV.Locks.ok_of_closed FV.Generated.Locks.facts_closed (by decide +kernel)

/-- What the decided discipline means for EVERY call path of lib/go's (resolved) call graph: a call made under
one of these mutexes never reaches, however deep, a function that acquires the same mutex
(`FV.Locks.closed_sound`: the mask table is closed under calls, so the number of rounds is not trusted). -/
theorem c14_no_nested_lock_on_any_call_path {fn : FV.Locks.Fn} (hfn : fn ∈ FV.Generated.Locks.facts)
    {m g h : Nat} (hheld : (m, g) ∈ fn.heldCalls)
    (hrel : FV.Locks.relevant [5, 6] FV.Generated.Locks.mutexTags m = true)
    (hr : FV.Locks.Reach FV.Generated.Locks.facts g h) {fnh : FV.Locks.Fn}
    (hh : FV.Generated.Locks.facts[h]? = some fnh) : m ∉ fnh.acquires :=
  FV.Locks.ok_no_nested_path _ _ _ c14_lock_discipline hfn hheld hrel hr hh

/-- **No goroutine of a loop shares an outer variable** (regenerated from lib/go on every check): no `go func(){…}()`
started inside a `for` body uses a variable that is declared outside the loop and assigned inside it. This is
what makes "one goroutine per accepted connection, each serving ITS connection" (the per-connection model
`FV.Proc.srvRun`, `c14_connections_independent`) a faithful reading of `acceptLoop`. -/
theorem c14_no_loop_shared_goroutine_variable : FV.Generated.Locks.loopShares = [] := by decide

/-- **Fields are written under their lock** (the processor's shared state): `writesGuarded` (FV/Model/Locks.lean,
"Guarded-by") for this property's locks, on the facts regenerated from lib/go on every check (spelt out at
`FV.C06.c06_fields_written_under_lock`). -/
theorem c14_fields_written_under_lock :
    FV.Locks.writesGuarded [5] FV.Generated.Locks.unguardedUnexpected = true := by decide +kernel

/-- **Locks held across calls are released by defer**: `releasedByDefer` (FV/Model/Locks.lean, "Panic safety of
critical sections") for this property's locks, on the facts regenerated from lib/go on every check (spelt out at
`FV.C06.c06_locks_released_by_defer`). -/
theorem c14_locks_released_by_defer :
    FV.Locks.releasedByDefer [5] FV.Generated.Locks.manualUnexpected = true := by decide +kernel

end FV.C14
