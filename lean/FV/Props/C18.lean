/-
C18 — The IDL audit flags every breaking change and nothing else.

  "For every pair of IDL programs, the audit fails if and only if the new program contains at
  least one of the documented breaking changes relative to the old one (a removed or retyped
  field, argument, method, operation, service, scope or struct; a requiredness change; an added
  required field; a removed enum value; a changed scope prefix; a oneway or extends change; an
  exception-set change on a void method), at whatever position or nesting depth it occurs and
  through typedefs. Identical programs and the documented compatible edits (renames, added
  optional fields, renamed prefix variables, namespace or constant changes) always pass."

Model: `FV.Audit.audit` (`FV/Model/Audit.lean`, follows `compiler/parser/audit.go`).
Catalogue: `FV.Breaking.Breaking` and `FV.Breaking.Compatible` (`FV/Spec/Breaking.lean`),
written without reference to the model; the readings adopted are listed there.
Hypothesis `WF` (`FV/Model/Idl.lean`): unique names per kind, unique field ids, typedefs
acyclic (every type expands within the program's fuel), types resolve. A name `inc.n` is expanded
through the typedefs of the included file `inc`; only an included typedef whose body mentions a
name (a second hop inside the include) is outside `WF` (known finding shared with C02).
-/
import FV.Model.Audit
import FV.Spec.Breaking
import FV.Proofs.Audit

namespace FV.C18
open FV.Idl FV.Audit FV.Breaking FV.AuditProofs

/-- The audit fails iff the new program contains a documented breaking change. -/
theorem c18_iff {old new : Prog} (ho : WF old) (hn : WF new) :
    (audit old new).any Finding.isError = true ↔ Breaking old new :=
  audit_iff ho hn

/-! Per checker (each checker of `audit.go` against its part of the catalogue). -/

theorem c18_iff_scopes {old new : Prog} (ho : WF old) (hn : WF new) :
    (checkScopes (Ctx.of old new) old.scopes new.scopes).any Finding.isError = true ↔
      ScopesBreaking old new :=
  checkScopes_iff hn.parts.scopes hn.parts.ops ho.parts.resolves hn.parts.resolves

theorem c18_iff_enums {old new : Prog} (hn : WF new) :
    (checkEnums old.enums new.enums).any Finding.isError = true ↔ EnumsBreaking old new :=
  checkEnums_iff hn.parts.enums hn.parts.enumValues

theorem c18_iff_structs {old new : Prog} (ho : WF old) (hn : WF new) :
    ((checkStructLike (Ctx.of old new) (ofKind .struct old.structs) (ofKind .struct new.structs)
        ++ checkStructLike (Ctx.of old new) (ofKind .exception old.structs) (ofKind .exception new.structs)
        ++ checkStructLike (Ctx.of old new) (ofKind .union old.structs) (ofKind .union new.structs)).any
      Finding.isError = true) ↔ StructsBreaking old new := by
  rw [List.any_append, List.any_append, Bool.or_eq_true, Bool.or_eq_true, or_assoc]
  exact structs_iff hn.parts.structs ho.parts.fields hn.parts.fields ho.parts.resolves hn.parts.resolves

theorem c18_iff_services {old new : Prog} (ho : WF old) (hn : WF new) :
    (checkServices (Ctx.of old new) old.services new.services).any Finding.isError = true ↔
      ServicesBreaking old new :=
  checkServices_iff hn.parts.services hn.parts.methods ho.parts.methodFields hn.parts.methodFields ho.parts.resolves hn.parts.resolves

/-- Fields, arguments and `throws` lists (`checkFields`): ids, requiredness, removal, addition. -/
theorem c18_iff_fields {old new : Prog} {ofs nfs : List Field}
    (ho : fieldsWF ofs) (hn : fieldsWF nfs)
    (ro : ∀ f ∈ ofs, Resolves old f.ty) (rn : ∀ g ∈ nfs, Resolves new g.ty) :
    (checkFields (Ctx.of old new) ofs nfs).any Finding.isError = true ↔
      FieldsBreaking old new ofs nfs :=
  checkFields_iff ho hn ro rn

/-- `checkType` through `UnderlyingType` on both sides: a message iff the two types differ
after expanding all typedefs (old typedefs for the old type, new ones for the new type). -/
theorem c18_iff_types {old new : Prog} {a b : Ty} (ha : Resolves old a) (hb : Resolves new b) :
    (checkType (Ctx.of old new) false (some a) (some b)).any Finding.isError = true ↔
      TypeChanged old new a b :=
  checkType_some ha hb

/-- Any combination of the documented compatible edits passes. -/
theorem c18_compatible_edits {p p' : Prog} (hw : WF p) (hw' : WF p') (hc : Compatible p p') :
    (audit p p').any Finding.isError = false := by
  cases h : (audit p p').any Finding.isError
  · rfl
  · exact absurd ((c18_iff hw hw').mp h) (compatible_not_breaking hw hw' hc)

/-- Identical programs pass. -/
theorem c18_reflexive {p : Prog} (hw : WF p) : (audit p p).any Finding.isError = false :=
  c18_compatible_edits hw hw (compatible_refl hw)

/-- Namespace and constant changes (added, removed, changed in any way). -/
theorem c18_compatible_namespaces_constants {p : Prog} (ns : List Namespace) (cs : List Const)
    (hw : WF p) (hw' : WF { p with namespaces := ns, consts := cs }) :
    (audit p { p with namespaces := ns, consts := cs }).any Finding.isError = false :=
  c18_compatible_edits hw hw' (show Compatible p p from compatible_refl hw)

/-- Renaming struct/union/exception fields and changing their default values, anywhere at
once: any rewriting `h` of fields that keeps id, type and modifier. -/
theorem c18_compatible_rename_fields {p : Prog} (h : Field → Field)
    (hpres : ∀ f, (h f).id = f.id ∧ (h f).ty = f.ty ∧ (h f).mod = f.mod)
    (hw : WF p)
    (hw' : WF { p with structs := p.structs.map fun s => { s with fields := s.fields.map h } }) :
    (audit p { p with structs := p.structs.map fun s => { s with fields := s.fields.map h } }).any
      Finding.isError = false := by
  refine c18_compatible_edits hw hw' ?_
  obtain ⟨c0, c1, c2, c3, _, c5⟩ := compatible_refl hw
  refine ⟨c0, c1, c2, c3, fun s hs => ?_, c5⟩
  exact ⟨_, List.mem_map_of_mem hs, rfl, rfl, fieldsCompat_map h hpres⟩

/-- Adding a field that is not `required` (optional or default) to one struct. -/
theorem c18_compatible_add_field {p : Prog} (target : StructLike) (g : Field)
    (hg : g.mod ≠ .required) (hw : WF p)
    (hw' : WF { p with structs := p.structs.map fun s =>
                  if s = target then { s with fields := s.fields ++ [g] } else s }) :
    (audit p { p with structs := p.structs.map fun s =>
                  if s = target then { s with fields := s.fields ++ [g] } else s }).any
      Finding.isError = false := by
  refine c18_compatible_edits hw hw' ?_
  obtain ⟨c0, c1, c2, c3, _, c5⟩ := compatible_refl hw
  refine ⟨c0, c1, c2, c3, fun s hs => ⟨_, List.mem_map_of_mem hs, ?_⟩, c5⟩
  by_cases hst : s = target
  · simp only [hst, if_true, true_and]
    refine ⟨fun f hf => ⟨f, List.mem_append_left _ hf, rfl, rfl, Iff.rfl⟩, fun g' hg' hreq => ?_⟩
    rcases List.mem_append.mp hg' with h | h
    · exact ⟨g', h, rfl⟩
    · rw [List.mem_singleton.mp h] at hreq; exact absurd hreq hg
  · simp only [hst, if_false, true_and]
    exact fieldsCompat_refl _

/-- Adding a method to one service. -/
theorem c18_compatible_add_method {p : Prog} (target : Service) (m : Method) (hw : WF p)
    (hw' : WF { p with services := p.services.map fun s =>
                  if s = target then { s with methods := s.methods ++ [m] } else s }) :
    (audit p { p with services := p.services.map fun s =>
                  if s = target then { s with methods := s.methods ++ [m] } else s }).any
      Finding.isError = false := by
  refine c18_compatible_edits hw hw' ?_
  obtain ⟨c0, c1, c2, c3, c4, _⟩ := compatible_refl hw
  refine ⟨c0, c1, c2, c3, c4, fun s hs => ⟨_, List.mem_map_of_mem hs, ?_⟩⟩
  by_cases hst : s = target
  · simp only [hst, if_true, true_and]
    exact ⟨Or.inr trivial, fun x hx => ⟨x, List.mem_append_left _ hx, rfl, methodCompat_refl x⟩⟩
  · simp only [hst, if_false, true_and]
    exact ⟨Or.inr trivial, fun x hx => ⟨x, hx, rfl, methodCompat_refl x⟩⟩

/-- Renaming prefix variables of every scope (`h` renames variables, keeps literals). -/
theorem c18_compatible_rename_prefix_variables {p : Prog} (h : Name → Name) (hw : WF p)
    (hw' : WF { p with scopes := p.scopes.map fun s => { s with pfx := s.pfx.map fun
                  | .var n => .var (h n)
                  | .lit t => .lit t } }) :
    (audit p { p with scopes := p.scopes.map fun s => { s with pfx := s.pfx.map fun
                  | .var n => .var (h n)
                  | .lit t => .lit t } }).any Finding.isError = false := by
  refine c18_compatible_edits hw hw' ?_
  obtain ⟨c0, c1, _, c3, c4, c5⟩ := compatible_refl hw
  refine ⟨c0, c1, fun s hs => ⟨_, List.mem_map_of_mem hs, rfl, ?_, fun o ho => ⟨o, ho, rfl, rfl⟩⟩, c3, c4, c5⟩
  generalize s.pfx = l
  induction l with
  | nil => trivial
  | cons a l ih => exact ⟨by cases a <;> simp [tokAgree], ih⟩

/-- A type change nested at any depth inside containers is reported by `checkType`
(induction over the one-hole context `c`; typedefs may occur anywhere on the way). -/
theorem c18_any_depth_types {old new : Prog} (c : TyCtx) {a b : Ty}
    (hra : Resolves old (c.plug a)) (hrb : Resolves new (c.plug b))
    (hab : ∃ x y, ResTo old.env a x ∧ ResTo new.env b y ∧ x ≠ y) :
    (checkType (Ctx.of old new) false (some (c.plug a)) (some (c.plug b))).any Finding.isError = true :=
  (checkType_some hra hrb).mpr (typeChanged_plug c hra hrb hab)

/-- A retyped struct field is an error of the audit whatever the rest of the two programs
does (constants with the same change, other fields with the same pair of spellings, other
errors and warnings): only the field's own pair of types matters. -/
theorem c18_retyped_field_not_masked {old new : Prog} (ho : WF old) (hn : WF new)
    {s s' : StructLike} {f g : Field} (hs : s ∈ old.structs) (hs' : s' ∈ new.structs)
    (hk : s'.kind = s.kind) (hname : s'.name = s.name)
    (hf : f ∈ s.fields) (hg : g ∈ s'.fields) (hid : g.id = f.id)
    (hch : TypeChanged old new f.ty g.ty) :
    (audit old new).any Finding.isError = true := by
  rw [c18_iff ho hn]
  exact Or.inr (Or.inr (Or.inl ⟨s, hs, Or.inr ⟨s', hs', hk, hname, Or.inl ⟨f, hf, g, hg, hid, Or.inl hch⟩⟩⟩))

/-- A change at any depth makes the whole audit fail: a struct/union/exception field whose type
changed at any depth, in any struct, at any position. -/
theorem c18_any_depth {old new : Prog} (ho : WF old) (hn : WF new)
    {s s' : StructLike} {f g : Field} (hs : s ∈ old.structs) (hs' : s' ∈ new.structs)
    (hk : s'.kind = s.kind) (hname : s'.name = s.name)
    (hf : f ∈ s.fields) (hg : g ∈ s'.fields) (hid : g.id = f.id)
    (c : TyCtx) {a b : Ty} (hfa : f.ty = c.plug a) (hgb : g.ty = c.plug b)
    (hab : ∃ x y, ResTo old.env a x ∧ ResTo new.env b y ∧ x ≠ y) :
    (audit old new).any Finding.isError = true := by
  refine c18_retyped_field_not_masked ho hn hs hs' hk hname hf hg hid ?_
  rw [hfa, hgb]
  exact typeChanged_plug c (hfa ▸ ho.parts.resolves _ (mem_allTys_field hs hf))
    (hgb ▸ hn.parts.resolves _ (mem_allTys_field hs' hg)) hab

/-- The same for an argument of a method of a service. -/
theorem c18_any_depth_argument {old new : Prog} (ho : WF old) (hn : WF new)
    {s s' : Service} {m m' : Method} {f g : Field} (hs : s ∈ old.services) (hs' : s' ∈ new.services)
    (hname : s'.name = s.name) (hm : m ∈ s.methods) (hm' : m' ∈ s'.methods) (hmn : m'.name = m.name)
    (hf : f ∈ m.args) (hg : g ∈ m'.args) (hid : g.id = f.id)
    (c : TyCtx) {a b : Ty} (hfa : f.ty = c.plug a) (hgb : g.ty = c.plug b)
    (hab : ∃ x y, ResTo old.env a x ∧ ResTo new.env b y ∧ x ≠ y) :
    (audit old new).any Finding.isError = true := by
  rw [c18_iff ho hn]
  refine Or.inr (Or.inr (Or.inr ⟨s, hs, Or.inr ⟨s', hs', hname, Or.inr ⟨m, hm, Or.inr ⟨m', hm', hmn,
    Or.inr (Or.inr (Or.inl (Or.inl ⟨f, hf, g, hg, hid, Or.inl ?_⟩)))⟩⟩⟩⟩))
  rw [hfa, hgb]
  exact typeChanged_plug c (hfa ▸ ho.parts.resolves _ (mem_allTys_method hs hm (mem_tys_arg hf)))
    (hgb ▸ hn.parts.resolves _ (mem_allTys_method hs' hm' (mem_tys_arg hg))) hab

/-- What a qualified name `inc.n` denotes does not depend on the typedefs of the file that uses
it — in particular not on a local typedef that happens to be called `n` too. -/
theorem c18_qualified_ignores_local_typedefs (incs : List IncFile) (tds tds' : List Typedef)
    (i n : Name) (f : Nat) {b : Ty} (hb : (TEnv.mk tds incs).inInc i n = some b)
    (hfree : b.nameFree = true) :
    resolve? ⟨tds, incs⟩ (f + 1) (.qual i n) = resolve? ⟨tds', incs⟩ (f + 1) (.qual i n) := by
  have hb' : (TEnv.mk tds' incs).inInc i n = some b := hb
  simp only [resolve?, hb, hb']
  exact resolve?_nameFree hfree

/-- `checkType` on a qualified typedef: a change of the included file's typedef body is seen,
whatever local declarations are called. -/
theorem c18_iff_types_qualified {old new : Prog} {i n j m : Name}
    (ha : Resolves old (.qual i n)) (hb : Resolves new (.qual j m)) :
    (checkType (Ctx.of old new) false (some (.qual i n)) (some (.qual j m))).any Finding.isError = true ↔
      TypeChanged old new (.qual i n) (.qual j m) :=
  c18_iff_types ha hb

/-- The verdict is the OR over the checkers; namespaces and constants never contribute. -/
theorem c18_verdict_or (c : Ctx) (old new : Prog) :
    (auditWith c old new).any Finding.isError =
      ((checkScopes c old.scopes new.scopes).any Finding.isError
        || (checkEnums old.enums new.enums).any Finding.isError
        || (checkStructLike c (ofKind .struct old.structs) (ofKind .struct new.structs)).any Finding.isError
        || (checkStructLike c (ofKind .exception old.structs) (ofKind .exception new.structs)).any Finding.isError
        || (checkStructLike c (ofKind .union old.structs) (ofKind .union new.structs)).any Finding.isError
        || (checkServices c old.services new.services).any Finding.isError) := by
  simp [auditWith, List.any_append, checkNamespaces_ok, checkConstants_ok, Bool.or_assoc]

/-- Constants (and namespaces) cannot hide or cause an error: for the same comparison context
the verdict is the same whatever the constants of the two programs are — in particular a
constant whose type changed in the very same way as a field (a warning, logged first) leaves
the error of that field in place. -/
theorem c18_constants_never_mask (c : Ctx) (old new : Prog)
    (cs cs' : List Const) (ns ns' : List Namespace) :
    (auditWith c { old with consts := cs, namespaces := ns } { new with consts := cs', namespaces := ns' }).any
        Finding.isError
      = (auditWith c old new).any Finding.isError := by
  rw [c18_verdict_or, c18_verdict_or]

/-- Within a list of findings, an error stays an error whatever else is logged before or after. -/
theorem c18_error_survives (pre post : List Finding) (k : Kind) :
    (pre ++ [Finding.error k] ++ post).any Finding.isError = true := by
  simp [Finding.isError]

/-- The exit status is the OR of the per-file verdicts. -/
theorem c18_cli_or (old : Prog) (fs : List Prog) :
    cliAudit old fs = true ↔ ∃ f ∈ fs, (audit old f).any Finding.isError = true := by
  unfold cliAudit
  induction fs with
  | nil => simp [cliLoop]
  | cons f fs ih =>
    simp only [cliLoop, Bool.false_or, List.mem_cons, exists_eq_or_imp, auditFails]
    cases h : (audit old f).any Finding.isError
    · simpa [auditFails] using ih
    · simp

/-- …hence: exit status ≠ 0 iff at least one of the files breaks against `old`. -/
theorem c18_cli_iff {old : Prog} {fs : List Prog} (ho : WF old) (hn : ∀ f ∈ fs, WF f) :
    cliAudit old fs = true ↔ ∃ f ∈ fs, Breaking old f := by
  rw [c18_cli_or]
  exact ⟨fun ⟨f, hf, h⟩ => ⟨f, hf, (c18_iff ho (hn f hf)).mp h⟩,
    fun ⟨f, hf, h⟩ => ⟨f, hf, (c18_iff ho (hn f hf)).mpr h⟩⟩

/-- The file the failure names is the first breaking one. -/
theorem c18_cli_first {old : Prog} {fs : List Prog} {k : Nat}
    (h : cliFirstFailing old fs = some k) :
    ∃ f, fs[k]? = some f ∧ (audit old f).any Finding.isError = true ∧
      ∀ j, j < k → ∀ g, fs[j]? = some g → (audit old g).any Finding.isError = false := by
  unfold cliFirstFailing at h
  rw [List.findIdx?_eq_some_iff_getElem] at h
  obtain ⟨hk, hp, hlt⟩ := h
  refine ⟨fs[k], by simp [hk], by simpa [auditFails] using hp, fun j hj g hg => ?_⟩
  have hj' : j < fs.length := Nat.lt_trans hj hk
  have := hlt j hj
  rw [List.getElem?_eq_getElem hj'] at hg
  cases hg
  simpa [auditFails] using this

/-! ### Non-vacuity: the hypotheses are satisfiable by non-trivial programs -/

/-- typedef chain `Id → Key → i64`, nested containers, union, exception, service with
`extends`/oneway/throws, scope with a prefix. -/
def exOld : Prog where
  typedefs := [⟨"Key", .base "i64"⟩, ⟨"Id", .named "Key"⟩, ⟨"Index", .map (.named "Id") (.list (.named "Item"))⟩]
  enums := [⟨"Color", [⟨"RED", 0⟩, ⟨"GREEN", 2⟩]⟩]
  structs := [
    ⟨.struct, "Item", [⟨1, "id", .required, .named "Id", none⟩, ⟨2, "tags", .dflt, .set (.base "string"), none⟩,
                       ⟨5, "color", .optional, .named "Color", none⟩]⟩,
    ⟨.struct, "Box", [⟨1, "index", .dflt, .named "Index", none⟩,
                      ⟨2, "deep", .dflt, .list (.map (.base "string") (.set (.named "Id"))), none⟩]⟩,
    ⟨.union, "Either", [⟨1, "a", .optional, .base "i32", none⟩, ⟨2, "b", .optional, .named "Item", none⟩]⟩,
    ⟨.exception, "Oops", [⟨1, "code", .dflt, .base "i32", some "0"⟩]⟩]
  services := [
    ⟨"Base", none, [⟨"ping", true, none, [], []⟩]⟩,
    ⟨"Store", some "Base", [⟨"get", false, some (.named "Item"), [⟨1, "id", .dflt, .named "Id", none⟩],
                              [⟨1, "err", .optional, .named "Oops", none⟩]⟩,
                            ⟨"put", false, none, [⟨1, "item", .dflt, .named "Item", none⟩], []⟩]⟩]
  scopes := [⟨"Events", [.lit "v1", .var "tenant", .lit "items"], [⟨"Created", .named "Item"⟩]⟩]
  namespaces := [⟨"go", "store"⟩]
  consts := [⟨"MAX", .base "i32", "10"⟩]

example : WF exOld := by decide +kernel

/-- Compatible edits only: field renamed, default field added, prefix variable renamed,
method added, typedef spelled out (`Id` → `Key`), namespace changed. -/
def exCompat : Prog := { exOld with
  structs := [
    ⟨.struct, "Item", [⟨1, "ident", .required, .named "Key", none⟩, ⟨2, "tags", .dflt, .set (.base "string"), none⟩,
                       ⟨5, "color", .optional, .named "Color", none⟩, ⟨7, "note", .optional, .base "string", none⟩]⟩,
    ⟨.struct, "Box", [⟨1, "index", .dflt, .named "Index", none⟩,
                      ⟨2, "deep", .dflt, .list (.map (.base "string") (.set (.base "i64"))), none⟩]⟩,
    ⟨.union, "Either", [⟨1, "a", .optional, .base "i32", none⟩, ⟨2, "b", .optional, .named "Item", none⟩]⟩,
    ⟨.exception, "Oops", [⟨1, "code", .dflt, .base "i32", some "1"⟩]⟩]
  scopes := [⟨"Events", [.lit "v1", .var "customer", .lit "items"], [⟨"Created", .named "Item"⟩]⟩]
  namespaces := [⟨"go", "store2"⟩] }

example : WF exCompat := by decide +kernel
example : ¬ Breaking exOld exCompat := by decide +kernel
example : (audit exOld exCompat).any Finding.isError = false := by decide +kernel
/-- (the typedef-spelling edit is outside `Compatible`, which keeps types syntactically) -/
example : Compatible exOld { exCompat with structs := exOld.structs } := by decide +kernel

/-- One breaking edit three levels deep behind a typedef: `Key` becomes `i32`, which changes
`Box.deep : list<map<string, set<Id>>>` and everything else that mentions `Id` or `Key`. -/
def exBroken : Prog := { exOld with
  typedefs := [⟨"Key", .base "i32"⟩, ⟨"Id", .named "Key"⟩, ⟨"Index", .map (.named "Id") (.list (.named "Item"))⟩] }

example : WF exBroken := by decide +kernel
example : Breaking exOld exBroken := by decide +kernel
example : (audit exOld exBroken).any Finding.isError = true := by decide +kernel

/-- The hypotheses of `c18_any_depth` on that pair: context `list<map<string, set<□>>>`. -/
example : ∃ x y, ResTo exOld.env (.named "Id") x ∧ ResTo exBroken.env (.named "Id") y ∧ x ≠ y :=
  ⟨.base "i64", .base "i32", ⟨3, by decide⟩, ⟨3, by decide⟩, by decide⟩

example : (TyCtx.list (.mapVal (.base "string") (.set .hole))).plug (.named "Id")
    = .list (.map (.base "string") (.set (.named "Id"))) := rfl

/-! Includes with a name collision: the file and its include `base` both declare `ID`
(and a struct `Rec`); `owner` is a `base.ID`, `label` a local `ID`. -/
def exBase (idBody : Ty) : IncFile :=
  { name := "base", typedefs := [⟨"ID", idBody⟩, ⟨"Ids", .list (.base "i64")⟩], decls := ["Rec"] }

def exInc (owner label : Ty) (idBody : Ty) : Prog where
  typedefs := [⟨"ID", .base "string"⟩, ⟨"Mine", .qual "base" "ID"⟩]
  structs := [⟨.struct, "Rec", [⟨1, "owner", .dflt, owner, none⟩, ⟨2, "label", .dflt, label, none⟩,
                                ⟨3, "peers", .dflt, .map (.named "Mine") (.qual "base" "Rec"), none⟩]⟩]
  includes := [exBase idBody]

example : WF (exInc (.qual "base" "ID") (.named "ID") (.base "i64")) := by decide +kernel
/-- `base.ID` (i64) replaced by the local `ID` (string): breaking, and reported. -/
example : Breaking (exInc (.qual "base" "ID") (.named "ID") (.base "i64"))
    (exInc (.named "ID") (.named "ID") (.base "i64")) := by decide
example : (audit (exInc (.qual "base" "ID") (.named "ID") (.base "i64"))
    (exInc (.named "ID") (.named "ID") (.base "i64"))).any Finding.isError = true := by decide
/-- the included file's `ID` changes behind the qualified name (and behind the local `Mine`). -/
example : (audit (exInc (.qual "base" "ID") (.named "ID") (.base "i64"))
    (exInc (.qual "base" "ID") (.named "ID") (.base "i32"))).any Finding.isError = true := by decide
/-- `base.ID` spelled out as `i64`, `ID` as `string`: compatible. -/
example : (audit (exInc (.qual "base" "ID") (.named "ID") (.base "i64"))
    (exInc (.base "i64") (.base "string") (.base "i64"))).any Finding.isError = false := by decide +kernel

/-- Command line: a breaking file between two harmless ones. -/
example : cliAudit exOld [exCompat, exBroken, exOld] = true ∧
    cliFirstFailing exOld [exCompat, exBroken, exOld] = some 1 ∧
    cliAudit exOld [exCompat, exOld] = false := by decide +kernel

/-- The same change `i32 → i64` at a constant (a warning, checked first) and at a field. -/
def exMask (t : Ty) : Prog where
  consts := [⟨"LIMIT", t, "5"⟩, ⟨"TABLE", .map (.base "string") t, "{}"⟩]
  structs := [⟨.struct, "Row", [⟨1, "n", .dflt, t, none⟩, ⟨2, "deep", .dflt, .list (.map (.base "string") (.set t)), none⟩]⟩]

example : WF (exMask (.base "i32")) ∧ WF (exMask (.base "i64")) := by decide +kernel
example : (audit (exMask (.base "i32")) (exMask (.base "i64"))).any Finding.isError = true := by decide
example : audit (exMask (.base "i32")) (exMask (.base "i64"))
    = [.warning .type, .warning .type, .error .type, .error .type] := by decide +kernel

/-! ### Known finding (KNOWN_FINDINGS.txt `include-typedef-second-hop`, shared with C02/C11)

A typedef chain whose second hop lies inside the included file: `base` declares
`typedef i64 id; typedef id userId`, the file uses `base.userId`. Read in its own file the body
`id` is `base.id`; the code (and so the model) looks `id` up in the including file. The pair
below differs only in `base.id` (i64 → i32): the field's type changed, the audit passes. Such
programs are outside `WF` (last clause), which is exactly where `c18_iff` stops. -/
def exHop (idBody : Ty) : Prog where
  structs := [⟨.struct, "M", [⟨1, "u", .dflt, .qual "base" "userId", none⟩]⟩]
  includes := [{ name := "base", typedefs := [⟨"id", idBody⟩, ⟨"userId", .named "id"⟩] }]

theorem c18_iff_counterexample :
    -- the field's type, read across the files, changed …
    resolveAcross? (exHop (.base "i64")).env 5 (.qual "base" "userId")
      ≠ resolveAcross? (exHop (.base "i32")).env 5 (.qual "base" "userId")
    -- … the audit passes …
    ∧ (audit (exHop (.base "i64")) (exHop (.base "i32"))).any Finding.isError = false
    -- … and the programs are not in the fragment of `c18_iff`.
    ∧ ¬ WF (exHop (.base "i64")) := by decide +kernel

/-- On the well-formed fragment both readings of an included typedef agree (bodies without
names are not touched by re-qualification). -/
theorem c18_requal_nameFree (i : Name) : ∀ t : Ty, t.nameFree = true → t.requal i = t := by
  intro t
  induction t <;> simp_all [Ty.nameFree, Ty.requal]

end FV.C18
