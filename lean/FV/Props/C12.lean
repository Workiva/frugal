/-
C12 — Size limits are enforced exactly and reported, never silently.

  "For every message and every configured size limit, a request or publish whose
  framed size exceeds the transport's limit is not transmitted and fails with a
  REQUEST_TOO_LARGE transport error, a response that exceeds the server-side or
  client-requested limit reaches the caller as a RESPONSE_TOO_LARGE error rather
  than a timeout or truncated data, and a message within the limit is never
  rejected. After an oversize failure the same client and server keep working for
  subsequent messages."

An encoder (Thrift protocol + generated struct code) is the list of operations it
performs on its transport: `Write`, `WriteByte`, `WriteString` (binary and compact
protocols use the latter two on a TRichTransport). The theorems quantify over every
limit and every such list; `opsSize ops` is the unframed size of the message,
`4 + opsSize ops` its framed size. The model describes the code after the three
repairs recorded in KNOWN_FINDINGS.txt (WriteByte/WriteString checked, limits 1..3,
writeHeader keeps the error type).
-/
import FV.Model.OutBuf
import FV.Proofs.OutBuf

namespace FV.C12
open FV OutBuf

/-- Write operations only (an encoder never calls `Reset`). -/
def Writes (ops : List Op) : Prop := ∀ o ∈ ops, o.isWrite = true

/-- **Buffer exactness.** For every limit and every non-empty sequence of writes of any of
the three kinds: `prepareMessage` fails — with the too-large error — exactly when a limit is
set and the framed size exceeds it; otherwise it returns exactly the size prefix followed by
the written bytes in order. (For the empty sequence nothing is ever checked; with a limit of
at least 4, or none, the statement holds for it too: `c12_buffer_exact_nil`.) -/
theorem c12_buffer_exact (limit : Nat) (ops : List Op) (hw : Writes ops) (hne : ops ≠ []) :
    (prepare limit ops = .err .tooLarge ↔ Over limit ops) ∧
    (¬ Over limit ops → prepare limit ops = .ok (be32 (opsSize ops) ++ opsPayload ops)) := by
  by_cases hov : Over limit ops
  · simp [prepare_over limit ops hw hne hov, hov]
  · simp [prepare_fits limit ops hw hov, hov]

theorem c12_buffer_exact_nil (limit : Nat) (h : limit = 0 ∨ 4 ≤ limit) :
    ¬ Over limit [] ∧ prepare limit [] = .ok (be32 0) := by
  refine ⟨fun ⟨h0, (h4 : limit < 4)⟩ => by omega, ?_⟩
  simp [prepare, runStop, bytes, len, OutBuf.new, framePlaceholder]

/-- The buffer never holds more than the limit, whatever is done to it — any mix of the
three writes and `Reset`, continuing after failures: `Bytes()` is at most `limit` long
(at most the 4-byte placeholder for the degenerate limits 1..3). -/
theorem c12_never_exceeds (limit : Nat) (ops : List Op) (hl : 0 < limit) :
    ((OutBuf.new limit).runAll ops).1.bytes.length ≤ max limit 4 := by
  rw [bytes_length _ (runAll_len_ge ops _ (by simp [new_len]))]
  exact runAll_bounded ops (OutBuf.new limit) hl (Nat.le_max_right limit 4)

/-- Whether a write is rejected depends on sizes alone: the `{limit, len}` buffer is the
exact projection of the byte buffer, for every operation sequence (also with `Reset`s and
after failures), so the server-side and call-level statements below, made on sizes, are
statements about the byte buffer. -/
theorem c12_sizes_only (b : OutBuf) (ops : List Op) :
    ((b.runStop ops).1.abs, (b.runStop ops).2) = b.abs.runStop ops ∧
    ((b.runAll ops).1.abs, (b.runAll ops).2) = b.abs.runAll ops :=
  ⟨runStop_abs ops b, runAll_abs ops b⟩

/-- `prepareMessage` on sizes agrees with `prepareMessage` on bytes. -/
theorem c12_prepare_sizes (limit : Nat) (ops : List Op) (hw : Writes ops) :
    (prepare limit ops = .err .tooLarge ↔ prepareLen limit ops = .err .tooLarge) ∧
    (∀ d, prepare limit ops = .ok d → prepareLen limit ops = .ok d.length) := by
  by_cases hov : Over limit ops
  · by_cases hne : ops = []
    · subst hne
      simp [prepare, prepareLen, runStop, LBuf.runStop, bytes, len, OutBuf.new, LBuf.new, framePlaceholder, be32]
    · simp [prepare_over limit ops hw hne hov, prepareLen_over limit ops hw hne hov]
  · simp only [prepare_fits limit ops hw hov, prepareLen_fits limit ops hw hov]
    refine ⟨by simp, ?_⟩
    intro d hd
    injection hd with hd
    rw [← hd, frame_length]

/-- A transport whose own check is "framed size greater than `L`" with `L` also the limit
given to the client's buffer (0 = unbounded). -/
def Transport.HasLimit (t : Transport) (L : Nat) : Prop :=
  t.bufLimit = L ∧ ∀ n, t.rejects n = decide (0 < L ∧ L < n)

theorem nats_hasLimit : Transport.HasLimit natsTransport natsMaxMessageSize := by
  refine ⟨rfl, fun n => ?_⟩
  exact decide_eq_decide.mpr (by unfold natsMaxMessageSize; omega)
theorem http_hasLimit (q : Nat) (hq : q ≤ int64Max) : Transport.HasLimit (httpTransport q) q :=
  ⟨rfl, fun n => decide_eq_decide.mpr (by omega)⟩
theorem limit_hasLimit (q : Nat) : Transport.HasLimit (limitTransport q) q := ⟨rfl, fun _ => rfl⟩

/-- The four real transports, each with its limit. -/
theorem real_hasLimit (q : Nat) (hq : q ≤ int64Max) (t : Transport) (L : Nat)
    (hmem : (t, L) ∈ [(natsTransport, natsMaxMessageSize), (natsPublisher, natsMaxMessageSize),
                      (httpTransport q, q), (stompPublisher q, q)]) : Transport.HasLimit t L := by
  simp only [List.mem_cons, Prod.mk.injEq, List.mem_nil_iff, or_false] at hmem
  rcases hmem with ⟨rfl, rfl⟩ | ⟨rfl, rfl⟩ | ⟨rfl, rfl⟩ | ⟨rfl, rfl⟩
  · exact nats_hasLimit
  · exact nats_hasLimit  -- `natsPublisher` is `natsTransport`, field for field
  · exact http_hasLimit _ hq
  · exact limit_hasLimit _  -- and `stompPublisher q` is `limitTransport q`

/-- Request side, generic in the transport. -/
theorem request_exact_of_hasLimit (t : Transport) (L : Nat) (ht : Transport.HasLimit t L)
    (ops : List Op) (hw : Writes ops) (hne : ops ≠ []) :
    (Over L ops → request t ops = .rejected .requestTooLarge) ∧
    (¬ Over L ops → request t ops = .wire (be32 (opsSize ops) ++ opsPayload ops)) := by
  constructor
  · intro hov
    simp only [request, ht.1, prepare_over L ops hw hne hov]
  · intro hov
    simp only [request, ht.1, prepare_fits L ops hw hov, ht.2, frame_length, decide_eq_true_eq]
    exact if_neg hov

/-- **Request-side exactness**, for `Request`/`Oneway` over NATS and HTTP and `Publish` over
NATS and STOMP: a message whose framed size exceeds the transport's limit is not handed to
the wire and the caller gets REQUEST_TOO_LARGE; a message within the limit (or with no
limit) is handed to the wire exactly — size prefix, then the encoder's bytes in order. -/
theorem c12_request_exact (ops : List Op) (hw : Writes ops) (hne : ops ≠ []) (q : Nat) (hq : q ≤ int64Max) :
    (∀ t L, (t, L) ∈ [(natsTransport, natsMaxMessageSize), (natsPublisher, natsMaxMessageSize),
                      (httpTransport q, q), (stompPublisher q, q)] →
      (Over L ops → request t ops = .rejected .requestTooLarge) ∧
      (¬ Over L ops → request t ops = .wire (be32 (opsSize ops) ++ opsPayload ops))) := by
  intro t L hmem
  exact request_exact_of_hasLimit t L (real_hasLimit q hq t L hmem) ops hw hne

/-- Request side on sizes (what `callVia` uses). -/
theorem requestLen_exact (t : Transport) (L : Nat) (ht : Transport.HasLimit t L)
    (ops : List Op) (hw : Writes ops) (hne : ops ≠ []) :
    (Over L ops → requestLen t ops = none) ∧ (¬ Over L ops → requestLen t ops = some (4 + opsSize ops)) := by
  constructor
  · intro hov
    simp only [requestLen, ht.1, prepareLen_over L ops hw hne hov]
  · intro hov
    simp only [requestLen, ht.1, prepareLen_fits L ops hw hov, ht.2, decide_eq_true_eq]
    exact if_neg hov

/-- **Oneway and Publish** (`FStandardClient.Oneway`, `FStandardClient.Publish`): over every
transport an oversize message is not handed to the wire and the caller gets
REQUEST_TOO_LARGE; a message within the limit is handed over and the call returns nil. -/
theorem c12_oneway_publish_exact (ops : List Op) (hw : Writes ops) (hne : ops ≠ []) (q : Nat) (hq : q ≤ int64Max) :
    (∀ t L, (t, L) ∈ [(natsTransport, natsMaxMessageSize), (natsPublisher, natsMaxMessageSize),
                      (httpTransport q, q), (stompPublisher q, q)] →
      (Over L ops → sendOnly t ops = ⟨false, some .requestTooLarge⟩) ∧
      (¬ Over L ops → sendOnly t ops = ⟨true, none⟩)) := by
  intro t L hmem
  have h := requestLen_exact t L (real_hasLimit q hq t L hmem) ops hw hne
  constructor <;> intro hov
  · simp only [sendOnly, h.1 hov]
  · simp only [sendOnly, h.2 hov]

/-- All steps of the error reply are write operations. -/
def SegWrites (segs : List (List Op)) : Prop := ∀ s ∈ segs, Writes s

def segsSize : List (List Op) → Nat
  | [] => 0
  | s :: t => opsSize s + segsSize t

theorem sendError_fits (segs : List (List Op)) : ∀ (b : LBuf), SegWrites segs →
    b.limit = 0 ∨ b.len + segsSize segs ≤ b.limit →
    sendError b segs = ({ b with len := b.len + segsSize segs }, false) := by
  induction segs with
  | nil => intro b _ _; simp [sendError, segsSize]
  | cons s t ih =>
    intro b hw hfit
    simp only [segsSize] at hfit
    obtain ⟨hs, hw⟩ := List.forall_mem_cons.mp hw
    have h1 := LBuf.runStop_fits s b hs (by omega)
    have h2 := ih { b with len := b.len + opsSize s } hw (by simp only; omega)
    simp only [sendError, h1, h2, segsSize, Nat.add_assoc, Bool.or_false]

/-- **A too-large response is reported.** Server with output limit `r` (NATS: 1 MiB): if
the request goes through, the framed reply exceeds `r`, and the error reply fits `r`, the
caller gets transport exception RESPONSE_TOO_LARGE (101) — not a timeout, not a truncated
or oversize reply, wherever in the reply the excess is written and by whichever write path. -/
theorem c12_response_reported (t : Transport) (L r : Nat) (ht : Transport.HasLimit t L)
    (req rep : List Op) (errp : List (List Op))
    (hq : Writes req) (hqne : req ≠ []) (hreq : ¬ Over L req)
    (hp : Writes rep) (hpne : rep ≠ []) (hover : Over r rep)
    (he : SegWrites errp) (hefit : 4 + segsSize errp ≤ r) (hepos : 0 < segsSize errp) :
    callVia t r req rep errp = ⟨true, some .responseTooLarge⟩ := by
  unfold callVia
  rw [(requestLen_exact t L ht req hq hqne).2 hreq]
  have h1 := LBuf.new_over r rep hp hpne hover
  have h2 := sendError_fits errp (LBuf.new r) he (.inr hefit)
  simp only [sendReply, h1, h2, if_true]
  have : 4 < 4 + segsSize errp := by omega
  simp [LBuf.hasWriteData, LBuf.new, processReply, appResponseTooLarge, this]

/-- The same for the real NATS pair (`fNatsTransport` + `fNatsServer`, both 1 MiB). -/
theorem c12_response_reported_nats (req rep : List Op) (errp : List (List Op))
    (hq : Writes req) (hqne : req ≠ []) (hreq : ¬ Over natsMaxMessageSize req)
    (hp : Writes rep) (hpne : rep ≠ []) (hover : Over natsMaxMessageSize rep)
    (he : SegWrites errp) (hefit : 4 + segsSize errp ≤ natsMaxMessageSize) (hepos : 0 < segsSize errp) :
    callNats req rep errp = ⟨true, some .responseTooLarge⟩ := by
  unfold callNats
  rw [c12_response_reported natsTransport _ _ nats_hasLimit req rep errp hq hqne hreq hp hpne hover he hefit hepos]

/-- The assumption "the error reply fits" is needed, and bites with oversize response
HEADERS: when the response header alone exceeds the server's limit, `SendReply` fails on it,
`sendError` fails on it again and then writes the rest of the error reply without a header;
over NATS that reply cannot be routed to its caller, who times out (observed end to end on
the real fNatsServer / fNatsTransport by suite `c12e2e`); over a transport that hands the
reply to the caller directly the caller gets a protocol error. Neither is 101. -/
theorem c12_response_headers_over_limit_counterexample (req rest : List Op) (hdr : Op) (tail : List (List Op))
    (hq : Writes req) (hqne : req ≠ []) (hreq : ¬ Over natsMaxMessageSize req)
    (hh : hdr.isWrite = true) (hbig : natsMaxMessageSize < 4 + hdr.size)
    (ht : SegWrites tail) (htfit : 4 + segsSize tail ≤ natsMaxMessageSize) (htpos : 0 < segsSize tail) :
    callVia natsTransport natsMaxMessageSize req (hdr :: rest) ([hdr] :: tail) = ⟨true, some .other⟩ ∧
    callNats req (hdr :: rest) ([hdr] :: tail) = ⟨true, some .timedOut⟩ := by
  have hpos : 0 < natsMaxMessageSize := by unfold natsMaxMessageSize; omega
  have hfail : (LBuf.new natsMaxMessageSize).apply hdr = (LBuf.new natsMaxMessageSize, true) := by
    rw [LBuf.apply_write _ hdr hh, if_pos ⟨hpos, Nat.add_comm 4 _ ▸ hbig⟩]
    rfl
  have h2 := sendError_fits tail (LBuf.new natsMaxMessageSize) ht (.inr htfit)
  have hv : callVia natsTransport natsMaxMessageSize req (hdr :: rest) ([hdr] :: tail) = ⟨true, some .other⟩ := by
    unfold callVia
    rw [(requestLen_exact natsTransport _ nats_hasLimit req hq hqne).2 hreq]
    simp only [sendReply, LBuf.runStop, sendError, hfail, h2, if_true, Bool.true_or]
    have : 4 < 4 + segsSize tail := by omega
    simp [LBuf.hasWriteData, LBuf.new, processReply, this]
  exact ⟨hv, by unfold callNats; rw [hv]⟩

/-- HTTP, for every limit value the handler's `int64` can hold (`q, r ≤ MaxInt64`; 0 = none):
the client-requested limit `r` travels as a decimal header, is parsed back exactly, and is
compared by the handler with the *unframed* reply; over it, the caller gets
RESPONSE_TOO_LARGE (413 → 101); otherwise the reply. -/
theorem c12_response_reported_http (q r : Nat) (req rep : List Op) (hq : q ≤ int64Max) (hr : r ≤ int64Max)
    (hw : Writes req) (hqne : req ≠ []) (hreq : ¬ Over q req) :
    (0 < r ∧ r < opsSize rep → callHttp q r req rep = ⟨true, some .responseTooLarge⟩) ∧
    (¬ (0 < r ∧ r < opsSize rep) → callHttp q r req rep = ⟨true, none⟩) := by
  unfold callHttp
  rw [(requestLen_exact _ q (http_hasLimit q hq) req hw hqne).2 hreq, handlerStatus_limit r _ hr]
  constructor <;> intro h <;> simp [h]

/-- The handler reads back exactly the limit the client formatted, for every value up to
`MaxInt64`; above it `ParseInt` reports a range error. -/
theorem c12_limit_header_roundtrip (n : Nat) :
    parseInt64 (formatUint n) = if n ≤ int64Max then some (n : Int) else none := by
  rw [parseInt64_formatUint]; simp [inInt64]

/-- Known finding `limit-above-int64` (KNOWN_FINDINGS.txt): the client's limits are `uint`;
a response limit above `MaxInt64` is answered 400 by the handler for EVERY call (the caller
gets an UNKNOWN transport exception although the reply is within the limit), and a request
limit above `MaxInt64` turns negative in `len(data) > int(limit)`: every request is rejected
as REQUEST_TOO_LARGE. -/
theorem c12_limit_above_int64_counterexample (q r : Nat) (req rep : List Op)
    (hw : Writes req) (hqne : req ≠ []) :
    (q ≤ int64Max → ¬ Over q req → int64Max < r → callHttp q r req rep = ⟨true, some .other⟩) ∧
    (int64Max < q → callHttp q r req rep = ⟨false, some .requestTooLarge⟩) := by
  constructor
  · intro hq hreq hr
    unfold callHttp
    rw [(requestLen_exact _ q (http_hasLimit q hq) req hw hqne).2 hreq, handlerStatus_above_int64 r _ hr]
    rfl
  · intro hq
    have h0 : 0 < q := by unfold int64Max at hq; omega
    unfold callHttp requestLen
    by_cases hov : Over q req
    · simp [httpTransport, prepareLen_over q req hw hqne hov]
    · simp [httpTransport, prepareLen_fits q req hw hov, h0, hq]

/-- **Never spurious.** A request within the request limit and a reply within the server's
limit (or no limits): the request is transmitted and the caller gets the result. -/
theorem c12_never_spurious (t : Transport) (L r : Nat) (ht : Transport.HasLimit t L)
    (req rep : List Op) (errp : List (List Op))
    (hq : Writes req) (hqne : req ≠ []) (hreq : ¬ Over L req)
    (hp : Writes rep) (hrep : ¬ Over r rep) (hpos : 0 < opsSize rep) :
    callVia t r req rep errp = ⟨true, none⟩ := by
  unfold callVia
  rw [(requestLen_exact t L ht req hq hqne).2 hreq]
  have h1 := LBuf.new_fits r rep hp hrep
  simp only [sendReply, h1]
  have : 4 < 4 + opsSize rep := by omega
  simp [LBuf.hasWriteData, processReply, this]

/-- `Reset()` restores the initial state. -/
theorem c12_reset_initial (b : OutBuf) : b.reset = OutBuf.new b.limit := rfl

/-- **Keeps working.** An operation that fails leaves the buffer in its initial state
(placeholder only, same limit), and so does an encoder run that stops on a failure; what is
written next behaves exactly as on a fresh buffer. (Client and server make a fresh buffer per
message anyway: `prepare`, `callVia` are functions of the message alone.) -/
theorem c12_keeps_working (b : OutBuf) (ops next : List Op) (hfail : (b.runStop ops).2 = true) :
    (b.runStop ops).1 = OutBuf.new b.limit ∧
    (b.runStop ops).1.runStop next = (OutBuf.new b.limit).runStop next ∧
    (b.runStop ops).1.runAll next = (OutBuf.new b.limit).runAll next := by
  rw [runStop_failed ops b hfail]
  exact ⟨rfl, rfl, rfl⟩

/-- `Reset` in the middle of a sequence: whatever was written before it (without a failure)
is forgotten; the rest behaves as on a fresh buffer. With `c12_buffer_exact` this gives
exactness for every sequence of `write | writeByte | writeString | reset`: only the writes
after the last `Reset` count. -/
theorem c12_reset_restarts (b : OutBuf) (pre post : List Op) (h : (b.runStop pre).2 = false) :
    b.runStop (pre ++ Op.reset :: post) = (OutBuf.new b.limit).runStop post := by
  rw [runStop_append pre _ b h]
  simp only [runStop, apply_reset]
  have : (b.runStop pre).1.reset = OutBuf.new b.limit := by
    rw [c12_reset_initial, runStop_limit]
  simp [this]

/-- **Every exit of `Request` leaves no registration** (the NATS `Request` shape: size check
between `Register` and `PublishRequest`): whatever the size, whether or not a reply arrives,
the registry after the call is the registry before it. -/
theorem c12_no_registration_left (L : Nat) (reg : List Nat) (opid size : Nat) (replied : Bool) :
    (regRequest L reg opid size replied).1 = reg ∧ (regOneway L reg size).1 = reg := by
  simp only [regRequest, regOneway, apply_ite Prod.fst, List.erase_cons_head, ite_self, and_self]

/-- **Follow-ups keep working**: in any sequence of requests and oneways on one transport,
with any reuse of FContexts (same op id again, a clone, a fresh one), after any number of
oversize rejections: every step leaves the registry empty, an oversize message is rejected
with REQUEST_TOO_LARGE and a message within the limit is never rejected. -/
theorem c12_followups_work (L : Nat) (steps : List SeqStep) (hs : ∀ st ∈ steps, st.size ≠ 4) :
    runSeq L [] steps = steps.map (fun st =>
      (if 0 < L ∧ L < st.size then some CallErr.requestTooLarge else none, 0)) := by
  induction steps with
  | nil => rfl
  | cons st t ih =>
    obtain ⟨h4, hs⟩ := List.forall_mem_cons.mp hs
    have hreg := c12_no_registration_left L [] st.opid st.size true
    have hfst : (if st.oneway then regOneway L [] st.size else regRequest L [] st.opid st.size true).1 = [] := by
      split
      · exact hreg.2
      · exact hreg.1
    have hres : (if st.oneway then regOneway L [] st.size else regRequest L [] st.opid st.size true).2 =
        (if 0 < L ∧ L < st.size then some CallErr.requestTooLarge else none) := by
      simp only [regOneway, regRequest, if_neg h4, List.not_mem_nil, if_false, apply_ite Prod.snd, if_true, ite_self]
    rw [runSeq, List.map_cons, hres, hfst, ih hs]
    rfl

/-- Known finding `json-sticky-writer` (KNOWN_FINDINGS.txt), on a concrete witness: the
hypothesis of `c12_response_reported` that the error reply's writes reach the buffer fails
for a buffered encoder whose `Flush` failed (TJSONProtocol keeps the error in its
`bufio.Writer`): only the response header, written directly to the transport, arrives. The
caller then gets a protocol error, not 101 — although every size hypothesis holds. The witness:
server limit 150, a response header of 36 bytes, a result of 220 (framed reply 260, over), and an
error reply of the header plus 70 bytes more (framed 110, within the limit). -/
theorem c12_response_sticky_encoder_counterexample :
    let hdr := Op.write (List.replicate 36 0)
    let rep := [hdr, Op.write (List.replicate 220 0)]
    Over 150 rep ∧ 4 + 36 + 70 ≤ 150 ∧
    (sendReplySticky (LBuf.new 150) rep hdr).1.hasWriteData = true ∧
    processReply (sendReplySticky (LBuf.new 150) rep hdr).2 = some .other := by
  intro hdr rep
  have hs : hdr.size = 36 := by simp only [hdr, Op.size, Op.payload, List.length_replicate]
  have hsz : opsSize rep = 256 := by simp only [rep, opsSize, Op.size, Op.payload, hdr, List.length_replicate]
  have hw : ∀ o ∈ rep, o.isWrite = true := List.forall_mem_cons.2 ⟨rfl, List.forall_mem_singleton.2 rfl⟩
  have hov : Over 150 rep := ⟨by omega, by omega⟩
  have h1 := LBuf.new_over 150 rep hw (List.cons_ne_nil _ _) hov
  refine ⟨hov, by omega, ?_, ?_⟩
  · simp only [sendReplySticky, h1, if_true, LBuf.apply_write _ hdr rfl, hs]
    simp [LBuf.new, LBuf.hasWriteData]
  · simp only [sendReplySticky, h1, if_true, processReply]

/-! Non-vacuity: the hypotheses are met by non-trivial values, and the repaired witnesses. -/

/-- `WriteString` last, one byte over (silently accepted before the repair). -/
example : prepare 4 [.writeString [1]] = .err .tooLarge := by decide
example : prepare 5 [.writeByte 7] = .ok [0, 0, 0, 1, 7] := by decide
/-- Limits 1..3 (stack overflow before the repair): every write is rejected. -/
example : prepare 2 [.write []] = .err .tooLarge := by decide
example : Writes [.write [1, 2], .writeByte 3, .writeString [4]] ∧ Over 7 [.write [1, 2], .writeByte 3, .writeString [4]]
    ∧ ¬ Over 8 [.write [1, 2], .writeByte 3, .writeString [4]] := by
  exact ⟨by unfold Writes; decide, by decide, by decide⟩
example : SegWrites [[.write [0, 1]], [], [.writeString [5]]] ∧ segsSize [[.write [0, 1]], [], [.writeString [5]]] = 3 := by
  exact ⟨by unfold SegWrites Writes; decide, by decide⟩

end FV.C12
