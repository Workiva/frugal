/-
C05 — No received byte sequence can crash or wedge a Frugal process.

  "For every byte sequence a peer can deliver, as a framed message on a socket,
  a NATS or STOMP message or an HTTP body, every receiving entry point (client
  response path, server request path, subscriber path) either handles it or
  rejects it with an error; it never panics and never blocks forever.
  Message-oriented receivers (NATS, STOMP, HTTP, server workers) keep serving
  later well-formed messages, and a connection-oriented receiver does at most
  close that one connection and report the cause."

The models keep Go's slice-expression semantics (`FV.slice`, `FV.sliceFrom`:
out of range ⇒ the explicit outcome `Res.panic`), so "never panics" is a real
statement about index arithmetic, not an artefact of totalisation. Termination
("never blocks forever" for these loops) is Lean's termination proof of
`readPairs` (measure `end − i`; it needs the negative-length rejection) and the
structural recursion of everything else: every function below is total.
-/
import FV.Model.Headers
import FV.Model.Registry0
import FV.Model.Receivers
import FV.Proofs.Headers
import FV.Model.Receivers2
import FV.Proofs.Receivers2
import FV.Model.Receivers3
import FV.Proofs.Receivers3
import FV.Model.Receivers4
import FV.Proofs.Receivers4
import FV.Model.Receivers5
import FV.Proofs.Receivers5
import FV.Proofs.LockFacts

namespace FV.C05
open FV

/-- Client response path, frame variant: `getHeadersFromFrame` never panics. -/
theorem c05_no_panic_frame (bs : Bytes) : ∀ p, headersFromFrame bs ≠ .panic p :=
  headersFromFrame_no_panic bs

/-- Server request / subscriber path: `readHeader` on a stream never panics. -/
theorem c05_no_panic_stream (bs : Bytes) : ∀ p, unmarshalStream bs ≠ .panic p :=
  unmarshalStream_no_panic bs

/-- `readPairs` itself, for any window inside the buffer and any accumulator. -/
theorem c05_no_panic_readPairs (buf : Bytes) (i e : Int) (acc : Hdrs) (h0 : 0 ≤ i) (he : e ≤ buf.length) :
    ∀ p, readPairs buf i e acc ≠ .panic p :=
  readPairs_no_panic buf i e acc h0 he

theorem c05_no_panic_addHeaders (bs : Bytes) (adds : Hdrs) : ∀ p, addHeadersToFrame bs adds ≠ .panic p := by
  intro p
  unfold addHeadersToFrame
  split
  · rename_i a b c d ver body
    split
    · split
      · intro h; cases h
      · rename_i q hq; exact absurd hq ((unmarshalHeadersFromFrame_spec _).ne_panic q)
      · rename_i existing hex
        have hb := (unmarshalHeadersFromFrame_spec _).of_ok hex
        simp only
        rw [sliceFrom_ok _ _ (by omega) (by simp only [List.length_cons]; omega)]
        intro h; cases h
    · intro h; cases h
  · intro h; cases h

/-- `fRegistryImpl.Execute` (header parse, op id parse, unregistered ⇒ nil). -/
theorem c05_no_panic_execute (bs : Bytes) : ∀ p, registryExecuteEmpty bs ≠ .panic p :=
  registryExecuteEmpty_no_panic bs

/-- `fBaseTransport.ExecuteFrame` (NATS client handler path): strips the frame size. -/
theorem c05_no_panic_executeFrame (bs : Bytes) : ∀ p, executeFrameEmpty bs ≠ .panic p := by
  intro p
  unfold executeFrameEmpty
  split
  · intro h; cases h
  · exact registryExecuteEmpty_no_panic _ p

/-- `fNatsServer.processFrame`. -/
theorem c05_no_panic_processFrame (bs : Bytes) : ∀ p, natsServerProcessFrame bs ≠ .panic p := by
  intro p
  unfold natsServerProcessFrame
  split
  · intro h; cases h
  · exact readRequestHeaderClass_no_panic _ p

/-- HTTP server request path (`NewFrugalHandlerFunc`): never panics, always answers with a status. -/
theorem c05_no_panic_http (bs : Bytes) : ∀ p, httpHandle bs ≠ .panic p := by
  intro p
  unfold httpHandle
  split
  · intro h; cases h
  · split
    · intro h; cases h
    · intro h; cases h
    · rename_i q hq; exact absurd hq (readRequestHeaderClass_no_panic _ q)

/-- Every outcome of every modelled receiver is `ok` or an error return. -/
theorem c05_handled_or_rejected (bs : Bytes) :
    (headersFromFrame bs).isPanic = false ∧ (unmarshalStream bs).isPanic = false ∧
    (executeFrameEmpty bs).isPanic = false ∧ (natsServerProcessFrame bs).isPanic = false :=
  ⟨Res.isPanic_false (c05_no_panic_frame bs), Res.isPanic_false (c05_no_panic_stream bs),
    Res.isPanic_false (c05_no_panic_executeFrame bs), Res.isPanic_false (c05_no_panic_processFrame bs)⟩

/-- Message-oriented receiver (NATS subscriber worker): after ANY sequence of received
byte strings the worker is still alive and delivers the next well-formed message. -/
theorem c05_worker_keeps_serving (ms : List Bytes) (w : Bytes) (hw : 4 ≤ w.length) :
    ((Worker.init.recvAll ms).recv w).alive = true ∧
    ((Worker.init.recvAll ms).recv w).delivered = (Worker.init.recvAll ms).delivered + 1 := by
  unfold Worker.recv
  rw [Worker.recvAll_alive, if_neg (by decide), if_neg (by omega)]
  exact ⟨rfl, rfl⟩

/-- The stateless message receivers (NATS server worker / client handler) have no state to
corrupt: the outcome for a message is a function of that message alone, whatever came before. -/
theorem c05_stateless_receivers (garbage : List Bytes) (w : Bytes) :
    (garbage.map natsServerProcessFrame, natsServerProcessFrame w).2 = natsServerProcessFrame w ∧
    (garbage.map executeFrameEmpty, executeFrameEmpty w).2 = executeFrameEmpty w := ⟨rfl, rfl⟩

/-! Non-vacuity / witnesses of the defects repaired (these inputs panicked before the fix). -/
example : headersFromFrame [0, 0, 0, 0, 1, 9] = .err .invalidData := by
  simp [headersFromFrame, unmarshalHeadersFromFrame, rd32, toI32, readPairs]
example : unmarshalStream [0, 255, 255, 255, 255] = .err .invalidData := by
  simp [unmarshalStream, rd32, toI32]
example : executeFrameEmpty [1, 2] = .err .invalidData := by simp [executeFrameEmpty]
example : natsServerProcessFrame [] = .err .invalidData := by simp [natsServerProcessFrame]

end FV.C05

/-! ## Second part — connection-oriented receivers, the STOMP subscriber

Models: `FV.Model.Receivers2`. The framed transport's reads (`TFramedTransport.Read` under `io.ReadFull`), the
adapter transport's read loop, `FSimpleServer.accept`, STOMP `processMessages`. The loops carry a fuel
argument and answer `Res.panic .fuel` when it runs out, so each `c05_no_panic_…` below is also the statement
that the loop terminates on every byte stream ("never blocks forever": the only way the real loop waits is in
a read of the connection, which the peer's END_OF_FILE or a local `Close()` ends). -/
namespace FV.C05
open FV FV.Recv2

/-- `io.ReadFull` over a `TFramedTransport`, any pending frame state, any stream, any length asked for. -/
theorem c05_no_panic_framedRead (t : FT) (n : Nat) : ∀ p, t.readFull n ≠ .panic p :=
  (readFull_spec t n).ne_panic

/-- (a) Client response path on a socket: the adapter transport's read loop, for EVERY byte stream of the
peer (size prefixes of 0, cut off, above `maxLength`, larger than what follows; any bodies; any number of
frames) neither panics nor runs forever. -/
theorem c05_no_panic_adapterReadLoop (s : Bytes) : ∀ p, adapterRecv s ≠ .panic p :=
  Res.ne_panic_of_ok (adapterRecv_closes s)

/-- … and the worst it does is close its own connection, publishing one value on `Closed()`. -/
theorem c05_adapter_worst_is_close (s : Bytes) : ∃ e : LoopEnd, adapterRecv s = .ok e :=
  adapterRecv_closes s

/-- (b) Server request path on a socket: `FSimpleServer.accept`, for EVERY byte stream of the client. -/
theorem c05_no_panic_simpleServerAccept (s : Bytes) : ∀ p, accept s ≠ .panic p :=
  Res.ne_panic_of_ok (accept_returns s)

/-- … and the worst it does is give up that client, returning the cause. -/
theorem c05_accept_worst_is_return (s : Bytes) : ∃ e : AcceptEnd, accept s = .ok e :=
  accept_returns s

/-- The request header read off a framed transport (`readHeader` with frame boundaries in play). -/
theorem c05_no_panic_readHeaderFramed (t : FT) : ∀ p, readHeaderF t ≠ .panic p :=
  (readHeaderF_spec t).ne_panic

theorem recv_total {recv : Bytes → Res (Option Err)} (h : recv = adapterCause ∨ recv = acceptCause) :
    ∀ s, ∃ c, recv s = .ok c := by
  rcases h with rfl | rfl <;> intro s
  · obtain ⟨e, he⟩ := adapterRecv_closes s
    exact ⟨e.cause, by unfold adapterCause; rw [he]⟩
  · obtain ⟨e, he⟩ := accept_returns s
    exact ⟨e.ret, by unfold acceptCause; rw [he]⟩

/-- Connection-oriented receivers (adapter read loop, simple server): bytes arriving on connection `i` of a
process with any number of connections never crash the process, leave every other connection exactly as it
was, and close connection `i` at most once, appending the receiver's cause to what its owner has seen; a
connection that is closed already is not touched. -/
theorem c05_connection_receiver_closes_once (i : Nat) (s : Bytes) (y : Sys) (hy : y.crashed = false) :
    ∀ recv, (recv = adapterCause ∨ recv = acceptCause) →
    (recvOn recv i s y).crashed = false ∧
    (∀ j, j ≠ i → (recvOn recv i s y).conns[j]? = y.conns[j]?) ∧
    (∀ c, y.conns[i]? = some c →
      (c.isOpen = false → (recvOn recv i s y).conns[i]? = some c) ∧
      (c.isOpen = true → ∃ cause, recv s = .ok cause ∧
        (recvOn recv i s y).conns[i]? = some ⟨false, c.causes ++ [cause]⟩)) := by
  intro recv hrecv
  exact recvOn_spec recv (recv_total hrecv) i s y hy

/-- Over any history of deliveries to any connections, starting from fresh ones: the process has not
crashed, an open connection has published nothing, a closed one exactly one cause. -/
theorem c05_connections_one_cause_each (n : Nat) (ds : List (Nat × Bytes)) :
    ∀ recv, (recv = adapterCause ∨ recv = acceptCause) →
    let y := deliverAll recv ⟨false, List.replicate n Conn.fresh⟩ ds
    y.crashed = false ∧ ∀ c ∈ y.conns, (c.isOpen = true → c.causes = []) ∧ (c.isOpen = false → c.causes.length = 1) := by
  intro recv hrecv
  apply deliverAll_inv recv (recv_total hrecv) ds
  refine ⟨rfl, ?_⟩
  intro c hc
  have := List.eq_of_mem_replicate hc
  subst this
  exact ⟨fun _ => rfl, fun h => by cases h⟩

/-- (c) Subscriber path over STOMP: `processMessages` never panics on any sequence of message bodies,
whatever the callback answers, and is still alive afterwards. -/
theorem c05_no_panic_stomp (cb : Bytes → Bool) (ms : List Bytes) :
    ∃ w, Stomp.recvAll cb Stomp.init ms = .ok w ∧ w.alive = true := by
  obtain ⟨w, h, ha⟩ := stomp_recvAll_total cb ms Stomp.init
  exact ⟨w, h, by rw [ha]; rfl⟩

/-- Message-oriented receiver (STOMP subscriber): after ANY sequence of bodies the next well-formed
message (at least the 4-byte prefix, accepted by the callback) is delivered and acknowledged. -/
theorem c05_stomp_keeps_serving (cb : Bytes → Bool) (ms : List Bytes) (m : Bytes)
    (h4 : 4 ≤ m.length) (hcb : cb (m.drop 4) = true) :
    ∃ w, Stomp.recvAll cb Stomp.init ms = .ok w ∧
      Stomp.recv cb w m = .ok { w with delivered := w.delivered + 1, acked := w.acked + 1 } := by
  obtain ⟨w, h, ha⟩ := stomp_recvAll_total cb ms Stomp.init
  exact ⟨w, h, stomp_recv_wellformed cb w m (by rw [ha]; rfl) h4 hcb⟩

end FV.C05

/-! ## Third part — the generic client path (`FStandardClient.processReply`), model `FV.Model.Receivers3` -/
namespace FV.C05
open FV FV.Recv3

/-- Thrift's binary `ReadMessageBegin` (both envelope forms) on any bytes: an envelope or an error. -/
theorem c05_no_panic_messageBegin (bs : Bytes) : ∀ p, binMessageBegin bs ≠ .panic p :=
  binMessageBegin_no_panic bs

/-- (d) Client response path, generic part: for EVERY reply byte string and every method name
`processReply` neither panics nor fails to classify the reply: it ends in one of the six stages
(header error, envelope error, wrong method name, exception, invalid message type, result read). -/
theorem c05_no_panic_processReply (method bs : Bytes) : ∀ p, processReply method bs ≠ .panic p :=
  Res.ne_panic_of_ok (processReply_total method bs)

/-- Whatever a reply carries, the response headers it adds to the caller's context never include
`_opid`: a reply cannot re-label the call it answers. -/
theorem c05_reply_cannot_set_opid (method bs : Bytes) (o : ReplyOutcome) (h : processReply method bs = .ok o) :
    ∀ kv ∈ o.added, kv.1 ≠ opIdHeader := by
  rcases processReply_cases method bs with ⟨_, _, h'⟩ | ⟨hd, _, _, _, h', _⟩ <;> rw [h'] at h <;> cases h
  · intro kv hk; cases hk
  · exact dropOpId_no_opid hd

/-- Garbage is an error: the result struct is only read from a reply whose header block parses and whose
envelope is a REPLY (type 2) message for this very method; every other byte string ends in a stage that
returns an error to the caller. -/
theorem c05_reply_accepted_only_if_wellformed (method bs : Bytes) (o : ReplyOutcome)
    (h : processReply method bs = .ok o) (hs : o.stage = .reply) :
    ∃ hd rest name r2, unmarshalStream bs = .ok (hd, rest) ∧ binMessageBegin rest = .ok (name, 2, r2) ∧ name = method := by
  rcases processReply_cases method bs with ⟨_, _, h'⟩ | ⟨hd, rest, _, hu, h', hiff⟩ <;> rw [h'] at h <;> cases h
  · cases hs
  · obtain ⟨r2, hr⟩ := hiff.mp hs
    exact ⟨hd, rest, method, r2, hu, hr, rfl⟩

/-- The client path keeps no state between replies: the stage of a reply is a function of that reply alone. -/
theorem c05_client_stateless (garbage : List Bytes) (method w : Bytes) :
    (garbage.map (processReply method), processReply method w).2 = processReply method w := rfl

end FV.C05

namespace FV.C05
open FV FV.Recv2

/-- The read loop of this file (Go's partial operations explicit, fuel) and the read loop of C15's model
(`FV.Framed.readAll`: whole frames of the stream, where the stream ended) agree on EVERY byte stream:
same number of frames handed to the registry, and the value published on `Closed()` is nil exactly
when C15's model calls the close clean. -/
theorem c05_adapter_agrees_with_framed_model (s : Bytes) :
    ∃ e, adapterRecv s = .ok e ∧ e.delivered = (Framed.readAll s true).1 ∧
      causeClass e.cause = (Framed.readAll s true).2 := by
  obtain ⟨e, he, hd, hc⟩ := adapterLoop_refines (s.length + 1) s 0 (by omega)
  rw [readAll_eof]
  refine ⟨e, he, hd.trans (Nat.zero_add _), ?_⟩
  by_cases hg : (Framed.deliver (Framed.deframe s).1).2 = true ∧ (Framed.deframe s).2 ≠ .badSize
  · rw [if_pos hg, hc.mpr hg]; rfl
  · rw [if_neg hg]
    cases hcz : e.cause with
    | none => exact absurd (hc.mp hcz) hg
    | some x => rfl

/-- "… and report the cause": the adapter publishes nil only if the registry accepted every whole frame of
the stream and no size prefix was refused; whenever it closes the connection because of what the peer
sent, the value on `Closed()` is that error. (END_OF_FILE — the peer hanging up, also in the middle of a
frame — is the one close that is not the receiver's doing; it is published as nil.) -/
theorem c05_adapter_cause_reported (s : Bytes) (e : LoopEnd) (h : adapterRecv s = .ok e) :
    e.cause = none ↔ ((Framed.deliver (Framed.deframe s).1).2 = true ∧ (Framed.deframe s).2 ≠ .badSize) := by
  obtain ⟨e', he, _, hc⟩ := adapterLoop_refines (s.length + 1) s 0 (by omega)
  have : e = e' := by
    unfold adapterRecv at h
    rw [he] at h
    cases h; rfl
  subst this
  exact hc

/-- Valid traffic is served: frames that fit `maxLength` and that the registry accepts are delivered one by
one, and the peer's hang-up closes the transport with cause nil. (A connection that received garbage is
gone; the next connection starts from this same initial state — the read loop has no other.) -/
theorem c05_adapter_serves_valid_traffic (fs : List Bytes)
    (hfs : ∀ f ∈ fs, f.length ≤ maxFrame ∧ (registryExecuteEmpty f).isOk = true) :
    adapterRecv (Framed.encode fs) = .ok ⟨none, fs.length⟩ := by
  obtain ⟨⟨c, d⟩, he, hd, hc⟩ := adapterLoop_refines ((Framed.encode fs).length + 1) (Framed.encode fs) 0 (by omega)
  rw [deframe_encode fs fun f hf => (hfs f hf).1, Framed.deliver_all_ok fs fun f hf => (hfs f hf).2] at hd hc
  rw [adapterRecv, he, show c = none from hc.mpr ⟨rfl, nofun⟩, show d = fs.length from hd.trans (Nat.zero_add _)]

example : adapterRecv [0, 0, 0] = .ok ⟨none, 0⟩ := by decide
/-- The hypothesis of `c05_adapter_serves_valid_traffic` is met by a real frame (headers `_opid: 1`). -/
example : ∃ f : Bytes, f.length ≤ maxFrame ∧ (registryExecuteEmpty f).isOk = true :=
  ⟨[0, 0,0,0,14, 0,0,0,5, 95,111,112,105,100, 0,0,0,1, 49], by simp [maxFrame], by
    simp [registryExecuteEmpty, frameOpId, headersFromFrame, unmarshalHeadersFromFrame, rd32, toI32, readPairs, slice,
      Hdrs.set, Hdrs.get?, opIdHeader, parseU64, digitsVal, Res.isOk]⟩
example : (Recv3.processReply [112] [9]).isOk = true := by decide
example : Stomp.recvAll (fun p => p.head? == some 0) Stomp.init [[1], [], [0, 0, 0, 1, 0]] = .ok ⟨true, 1, 1⟩ := by decide

end FV.C05

/-! ## Fourth part — the HTTP client response path (`fHTTPTransport.Request` + `FStandardClient.Call`/`Oneway`),
model `FV.Model.Receivers4`. The model starts from the status code and what `base64.StdEncoding` made of the
body. -/
namespace FV.C05
open FV FV.Recv4

/-- `fHTTPTransport.Request` on every status and every body: an error, `(nil, nil)` or reply bytes. -/
theorem c05_no_panic_httpRequest (status : Nat) (body : B64) : ∀ p, httpRequest status body ≠ .panic p :=
  httpRequest_no_panic status body

/-- (e) Client response path over HTTP: for EVERY status code and EVERY body, `FStandardClient.Call` returns
the transport's error or ends in a stage of `processReply` — never a panic (in particular not the nil
dereference of the code before the repair, see the counterexample below). -/
theorem c05_http_call_total (method : Bytes) (status : Nat) (body : B64) :
    (∃ e, httpCall true method status body = .req e) ∨ (∃ o, httpCall true method status body = .reply o) :=
  httpCall_total method status body

/-- `Oneway` over HTTP: nil or the transport's error, for every status and body. -/
theorem c05_http_oneway_total (status : Nat) (body : B64) : ∃ r, httpOneway status body = .ok r := by
  unfold httpOneway
  split
  · exact ⟨_, rfl⟩
  · rename_i p hp; exact absurd hp (httpRequest_no_panic _ _ p)
  · exact ⟨_, rfl⟩
  · exact ⟨_, rfl⟩

/-- The 4 zero bytes a server sends for a one-way, received for a TWO-WAY call, are an error (INVALID_DATA). -/
theorem c05_http_zero_frame_is_error (method : Bytes) (status : Nat) (b : Bytes)
    (h1 : status ≠ 413) (h2 : status < 300) (hl : b.length = 4) (hz : rd32 b = 0) :
    httpCall true method status (.decoded b) = .req .invalidData := by
  unfold httpCall
  rw [httpRequest_decoded h1 h2, if_neg (by omega), if_pos hl, if_neg (by simp [hz])]
  rfl

/-- Before the repair (`guarded = false`: `Call` handed the nil transport to `processReply`) the same response
is a nil-pointer panic in the caller's goroutine: the statement of C05 was false of that code. -/
theorem c05_http_zero_frame_unfixed_counterexample (method : Bytes) :
    httpCall false method 200 (.decoded [0, 0, 0, 0]) = .nilDeref := by
  unfold httpCall
  rw [httpRequest_decoded (by omega) (by omega), if_neg (by decide), if_pos (by decide), if_neg (by decide)]
  rfl

/-- Composition with the generic client path: when the transport hands back reply bytes — a response below
300, not 413, base64 of more than 4 bytes — `Call` is exactly `processReply` on the bytes behind the first
four (their value is never compared with the length: modelled as it is), with all that is proved of it:
no panic, `_opid` never set, accepted only if a REPLY for the method. -/
theorem c05_http_call_composes (method : Bytes) (status : Nat) (b : Bytes)
    (h1 : status ≠ 413) (h2 : status < 300) (hl : 4 < b.length) :
    ∃ o, Recv3.processReply method (b.drop 4) = .ok o ∧ httpCall true method status (.decoded b) = .reply o := by
  obtain ⟨o, ho⟩ := Recv3.processReply_total method (b.drop 4)
  refine ⟨o, ho, ?_⟩
  unfold httpCall
  rw [httpRequest_decoded h1 h2, if_neg (by omega), if_neg (by omega)]
  dsimp only
  rw [ho]

/-- Everything that is not such a response is an error for a two-way call, and no reply is read from it. -/
theorem c05_http_call_rejects_the_rest (method : Bytes) (status : Nat) (body : B64)
    (h : ¬ (status ≠ 413 ∧ status < 300 ∧ ∃ b, body = .decoded b ∧ 4 < b.length)) :
    ∃ e, httpCall true method status body = .req e := by
  unfold httpCall
  rcases httpRequest_cases status body with ho | ⟨h1, h2, b, rfl⟩
  · obtain ⟨e, he⟩ := httpRequest_other ho
    rw [he]; exact ⟨_, rfl⟩
  · have hl : ¬ 4 < b.length := fun hl => h ⟨h1, h2, b, rfl, hl⟩
    rw [httpRequest_decoded h1 h2]
    by_cases h4 : b.length < 4
    · rw [if_pos h4]; exact ⟨_, rfl⟩
    · rw [if_neg h4, if_pos (by omega)]
      by_cases hz : rd32 b ≠ 0
      · rw [if_pos hz]; exact ⟨_, rfl⟩
      · rw [if_neg hz]; exact ⟨_, rfl⟩

/-- The HTTP client path keeps no state between responses. -/
theorem c05_http_client_stateless (garbage : List (Nat × B64)) (method : Bytes) (st : Nat) (w : B64) :
    (garbage.map (fun g => httpCall true method g.1 g.2), httpCall true method st w).2 = httpCall true method st w := rfl

example : httpCall true [112] 200 (.decoded [0, 0, 0, 0]) = .req .invalidData :=
  c05_http_zero_frame_is_error [112] 200 [0, 0, 0, 0] (by omega) (by omega) rfl rfl
example : httpCall true [112] 413 .invalid = .req .tooLarge := rfl
example : httpOneway 500 (.decoded [0, 0, 0, 0]) = .ok (some .transport) := rfl

/-- **Lock discipline behind the model's atomic steps** (registry, adapter lifecycle lock, framed reader, processor
write mutex, NATS server send mutex, subscriber open mutex): conditions (N) and (L) of FV/Model/Locks.lean for
these mutexes, decided by the kernel on the facts regenerated from lib/go on every check (spelt out at
`FV.C01.c01_lock_discipline`). -/
theorem c05_lock_discipline :
    FV.Locks.ok [1, 2, 3, 5, 6, 7] FV.Generated.Locks.mutexTags FV.Generated.Locks.facts = true :=
  FV.Locks.ok_of_closed FV.Generated.Locks.facts_closed (by decide +kernel)

end FV.C05

/-! ## Fifth part — the SIZE of echoed header values: the reply step of a server worker, model `FV.Model.Receivers5`.
A peer can size `_cid` / `_opid` so that the request fits the transport while the response headers alone
pass the server's output limit. -/
namespace FV.C05
open FV FV.Recv5

/-- The worker's reply step ends after at most TWO write attempts (the reply, and one RESPONSE_TOO_LARGE
exception), whatever the sizes of the header block and of every other write and whatever the limit:
`sendError` ignores the results of its writes and so never re-enters `trapError`. (`replyStep` is a
composition of two folds over finite lists: its totality is Lean's termination check.) -/
theorem c05_reply_step_at_most_two_attempts (limit : Nat) (sc : Scenario) (primary fallback : List (List Nat)) :
    (replyStep limit sc primary fallback).attempts ≤ 2 := by
  unfold replyStep
  cases sc <;> dsimp only
  · split <;> simp
  · simp
  · split <;> simp

/-- Whatever was received, what the worker publishes fits the output limit. -/
theorem c05_reply_step_within_limit (limit : Nat) (hl : 4 ≤ limit) (sc : Scenario) (primary fallback : List (List Nat))
    (n : Nat) (h : published (replyStep limit sc primary fallback) = some n) : n ≤ limit := by
  unfold published at h
  split at h
  · cases h
  · cases h; exact replyStep_len_le limit hl sc primary fallback

/-- The code as it is, stated: when the response header block alone passes the limit (`h + 4 > limit`), a
valid call is answered by the RESPONSE_TOO_LARGE exception WITHOUT its header block (that write fails too and
is ignored), and an unknown method by nothing at all (the error goes to the worker's log). The peer cannot
correlate either; the server has rejected the request with an error and goes on. -/
theorem c05_reply_step_header_overflow (limit h : Nat) (rest exc : List (List Nat)) (hl : limit > 0) (ho : h + 4 > limit) :
    replyStep limit .reply ([h] :: rest) ([h] :: exc) = ⟨2, unchecked limit 4 exc, false⟩ ∧
    published (replyStep limit .unknown ([h] :: rest) []) = none := by
  -- the checked attempt fails at the header block, for a reply and for an unknown method alike
  have hc : checked limit 4 ([h] :: rest).flatten = none := checked_head_overflow limit h _ hl ho
  constructor
  · unfold replyStep
    dsimp only
    rw [hc, unchecked_head_overflow limit h exc hl ho]
  · unfold replyStep
    dsimp only
    rw [hc]
    simp [published]

/-- Why the structure matters: a `sendError` that handed its failed writes back to `trapError` (NOT the code)
would, for exactly those requests, never finish — no amount of fuel lets it return. -/
theorem c05_recursive_sendError_would_diverge (limit h : Nat) (exc : List Nat) (hl : limit > 0) (ho : h + 4 > limit) :
    ∀ fuel, sendErrorRec limit (h :: exc) fuel = none :=
  sendErrorRec_diverges limit (h :: exc) (checked_head_overflow limit h exc hl ho)

/-- The reply step keeps no state: what is published for a request is a function of that request alone. -/
theorem c05_reply_step_stateless (limit : Nat) (before : List (Scenario × List (List Nat) × List (List Nat))) (sc : Scenario) (p f : List (List Nat)) :
    (before.map (fun x => replyStep limit x.1 x.2.1 x.2.2), replyStep limit sc p f).2 = replyStep limit sc p f := rfl

example : replyStep 1048576 .reply [[1048575], [4, 8]] [[1048575], [4, 30]] = ⟨2, 38, false⟩ := by decide
example : published (replyStep 1048576 .reply [[40], [4, 8]] [[40], [4, 30]]) = some 56 := by decide
/-- a protocol call stops at its first failed write: the 30 bytes behind the failed 4 are not written -/
example : replyStep 1048576 .error [[1048570], [4, 30], [7]] [] = ⟨1, 11, false⟩ := by decide
example : httpReply 64 .reply [[100], [4, 8]] [] = (413, none) := by decide

/-- **Fields are written under their lock** (the framed reader's state): `writesGuarded` (FV/Model/Locks.lean,
"Guarded-by") for this property's locks, on the facts regenerated from lib/go on every check (spelt out at
`FV.C06.c06_fields_written_under_lock`). -/
theorem c05_fields_written_under_lock :
    FV.Locks.writesGuarded [3] FV.Generated.Locks.unguardedUnexpected = true := by decide +kernel

end FV.C05

/-! ## Sixth part — size fields of the HTTP layer itself (Content-Length, chunk sizes) chosen by the peer and
inconsistent with what it sends. Model: `Framing`, `delivered`, `httpCallEnvelope` in `FV.Model.Receivers4`. -/
namespace FV.C05
open FV FV.Recv4

/-- The outcome of a call depends only on the status and the bytes actually RECEIVED, never on a length the
peer announced: two responses (any Content-Length, any chunk-size lines, any bytes sent) from which the same
bytes are delivered end the call the same way. -/
theorem c05_http_outcome_ignores_announced_length (dec : Bytes → B64) (guarded : Bool) (method : Bytes) (status : Nat)
    (fr1 fr2 : Framing) (sent1 sent2 : Bytes) (h : delivered status fr1 sent1 = delivered status fr2 sent2) :
    httpCallEnvelope dec guarded method status fr1 sent1 = httpCallEnvelope dec guarded method status fr2 sent2 := by
  unfold httpCallEnvelope
  rw [h]

/-- In particular: once the body that was sent has arrived whole under a truthful Content-Length, announcing
anything larger instead — 2^50, 2^62, max int64 — only turns the outcome into the transport's error (the body
"ends early"); it is never a panic, and the announced number appears nowhere in the result. -/
theorem c05_http_announced_above_sent_is_an_error (dec : Bytes → B64) (method : Bytes) (status a : Nat) (sent : Bytes)
    (h204 : status ≠ 204 ∧ status ≠ 304) (ha : sent.length < a) :
    httpCallEnvelope dec true method status (.length a) sent = .req (if status = 413 then .tooLarge else .transport) := by
  rw [httpCallEnvelope, delivered_length h204, if_neg (by omega), httpReceived]
  split <;> rfl

/-- … and a Content-Length at or below what was sent delivers exactly that prefix: the call is the call on
those bytes. -/
theorem c05_http_announced_within_sent (dec : Bytes → B64) (guarded : Bool) (method : Bytes) (status a : Nat) (sent : Bytes)
    (h204 : status ≠ 204 ∧ status ≠ 304) (h413 : status ≠ 413) (ha : a ≤ sent.length) :
    httpCallEnvelope dec guarded method status (.length a) sent = httpCall guarded method status (dec (sent.take a)) := by
  rw [httpCallEnvelope, delivered_length h204, if_pos ha, httpReceived, if_neg h413]

/-- Every envelope — any status, any announced sizes, any bytes, whatever base64 makes of them — ends in the
transport's error or in a stage of `processReply`: never a panic. -/
theorem c05_http_envelope_total (dec : Bytes → B64) (method : Bytes) (status : Nat) (fr : Framing) (sent : Bytes) :
    (∃ e, httpCallEnvelope dec true method status fr sent = .req e) ∨
    (∃ o, httpCallEnvelope dec true method status fr sent = .reply o) :=
  httpReceived_total dec method status _

/-- Why it matters that nothing is sized by the announcement: a `makeRequest` that grew its buffer to the
announced Content-Length first (NOT the code) panics in the caller's goroutine on a 12-byte response that
announces 2^50 bytes, where the code returns the transport's error. -/
theorem c05_http_presized_variant_panics (dec : Bytes → B64) (method sent : Bytes) (hs : sent.length < 1125899906842624) :
    httpCallPresized dec true method 200 (.length 1125899906842624) sent = .panic .overflow ∧
    httpCallEnvelope dec true method 200 (.length 1125899906842624) sent = .req .transport := by
  constructor
  · unfold httpCallPresized
    dsimp only
    rw [if_pos ⟨by omega, by unfold maxAlloc; omega⟩]
  · have := c05_http_announced_above_sent_is_an_error dec method 200 1125899906842624 sent ⟨by omega, by omega⟩ hs
    rw [this]
    rfl

example : delivered 200 (.length 9223372036854775807) [65, 65] = none := by decide
example : delivered 200 (.length 1) [65, 66] = some [65] := by decide
example : delivered 200 (.chunked [(2, 2), (1, 1)] true) [65, 66, 67] = some [65, 66, 67] := by decide
example : delivered 200 (.chunked [(4611686018427387904, 2)] true) [65, 66] = none := by decide

end FV.C05
