/-
C03 — A call through generated client and server code is faithful end to end.

  "For every service method of every valid IDL program and every argument tuple,
  invoking the generated client over any supported transport and protocol invokes the
  handler registered with the generated processor exactly once with equal arguments, and
  the caller observes exactly the handler's outcome: the value it returned, the declared
  exception it raised, or an application error for an undeclared failure. Methods inherited
  through extends behave identically and a successful oneway call produces no reply."

`FV.Rpc.call` composes the emitted client, any frame-preserving transport (C01), the emitted
processor (C14) and the emitted result mapping; arguments and results travel as the synthetic
`<key>_args` / `<key>_result` structs through the same emitted Read/Write code as every struct
(C02, `FV.Thrift.roundtrip`). `d` is ANY definitions table, `key` ANY method (own or inherited:
an inherited method is the parent's entry in the single processor map, so it IS the same key),
`h` ANY handler behaviour. Sockets, net/http and NATS delivery are environment; the transports
are exercised by the correspondence runs (in-memory and HTTP in the quick tier).
-/
import FV.Model.Rpc
import FV.Proofs.Thrift
import FV.Proofs.Rpc

namespace FV.C03
open FV FV.Thrift FV.Rpc

/-- The handler is invoked exactly once, with arguments equal to the caller's. -/
theorem c03_handler_once_equal_args (d : Defs) (n : Nat) (key : String) (oneway : Bool) (args : Val)
    (h : Val → HOutcome) (hargs : WT d n (.struct (key ++ "_args")) args) :
    (call d n key oneway args h).calls = 1 ∧ (call d n key oneway args h).args = some args := by
  obtain ⟨es, hes, hrt⟩ := enc_dec d n _ args hargs
  unfold call
  simp only [hes, hrt]
  cases oneway with
  | true => simp
  | false =>
    simp only [Bool.false_eq_true, if_false]
    cases h args with
    | value v => cases v <;> simp
    | declared i e | appException ty | otherError => simp

/-- A successful oneway call produces no reply (the caller observes `void`), and the handler ran. -/
theorem c03_oneway_no_reply (d : Defs) (n : Nat) (key : String) (args : Val) (h : Val → HOutcome)
    (hargs : WT d n (.struct (key ++ "_args")) args) :
    (call d n key true args h).result = .void := by
  obtain ⟨es, hes, hrt⟩ := enc_dec d n _ args hargs
  unfold call
  simp only [hes, hrt, if_true]

/-- The caller observes exactly the value the handler returned. -/
theorem c03_faithful_value (d : Defs) (n : Nat) (key : String) (args v : Val) (h : Val → HOutcome)
    (hargs : WT d n (.struct (key ++ "_args")) args) (hh : h args = .value (some v))
    (hres : WT d n (.struct (key ++ "_result")) (.struct [(0, v)])) :
    (call d n key false args h).result = .ok v := by
  obtain ⟨es, hes, hrt⟩ := enc_dec d n _ args hargs
  obtain ⟨rs, hrs, hrt2⟩ := enc_dec d n _ _ hres
  unfold call
  simp only [hes, hrt, hh, Bool.false_eq_true, if_false, hrs, hrt2]
  simp [lookupVal]

/-- A void method that returns normally is observed as a normal return. -/
theorem c03_faithful_void (d : Defs) (n : Nat) (key : String) (args : Val) (h : Val → HOutcome) (sd : StructDef)
    (hargs : WT d n (.struct (key ++ "_args")) args) (hh : h args = .value none)
    (hres : WT d n (.struct (key ++ "_result")) (.struct []))
    (hsd : lookupStruct d (key ++ "_result") = some sd) (hvoid : sd.fields.any (·.id = 0) = false) :
    (call d n key false args h).result = .void := by
  obtain ⟨es, hes, hrt⟩ := enc_dec d n _ args hargs
  obtain ⟨rs, hrs, hrt2⟩ := enc_dec d n _ _ hres
  unfold call
  simp only [hes, hrt, hh, Bool.false_eq_true, if_false, hrs, hrt2]
  simp [lookupVal, hsd, hvoid]

/-- The caller observes exactly the declared exception the handler raised. -/
theorem c03_faithful_declared (d : Defs) (n : Nat) (key : String) (args e : Val) (i : Int) (h : Val → HOutcome)
    (hargs : WT d n (.struct (key ++ "_args")) args) (hh : h args = .declared i e) (hi : i ≠ 0)
    (hres : WT d n (.struct (key ++ "_result")) (.struct [(i, e)])) :
    (call d n key false args h).result = .exc i e := by
  obtain ⟨es, hes, hrt⟩ := enc_dec d n _ args hargs
  obtain ⟨rs, hrs, hrt2⟩ := enc_dec d n _ _ hres
  unfold call
  simp only [hes, hrt, hh, Bool.false_eq_true, if_false, hrs, hrt2]
  simp [lookupVal, hi]

/-- An undeclared failure reaches the caller as an application error: INTERNAL_ERROR for an arbitrary
error, the handler's own type for a TApplicationException. -/
theorem c03_faithful_undeclared (d : Defs) (n : Nat) (key : String) (args : Val) (h : Val → HOutcome)
    (hargs : WT d n (.struct (key ++ "_args")) args) :
    (h args = .otherError → (call d n key false args h).result = .app internalError) ∧
    (∀ ty, h args = .appException ty → (call d n key false args h).result = .app ty) := by
  obtain ⟨es, hes, hrt⟩ := enc_dec d n _ args hargs
  constructor
  · intro hh; unfold call; simp only [hes, hrt, hh, Bool.false_eq_true, if_false]
  · intro ty hh; unfold call; simp only [hes, hrt, hh, Bool.false_eq_true, if_false]

/-! ### Whatever the request waited at the server, whatever timeout the caller's FContext carried

`FV.Rpc.callQ` adds the two times to the call path. The server side of the model does not look at either
(no transport sheds a request it received), so: -/

/-- A oneway call that succeeded for its caller (nil error: observed `void`) has had its handler invoked
exactly once with equal arguments — for EVERY queue wait and EVERY FContext timeout, in particular when the
request waited at a busy server for longer than the call's own timeout (which only bounds the send). -/
theorem c03_oneway_success_implies_handled_whatever_wait (d : Defs) (n : Nat) (key : String) (args : Val)
    (h : Val → HOutcome) (wait timeout : Nat) (hargs : WT d n (.struct (key ++ "_args")) args)
    (_hsucc : (callQ d n key true args h wait timeout).result = .void) :
    (callQ d n key true args h wait timeout).calls = 1 ∧
    (callQ d n key true args h wait timeout).args = some args := by
  rw [callQ_oneway_eq_call]
  exact c03_handler_once_equal_args d n key true args h hargs

/-- …and a oneway call with well-typed arguments does succeed, whatever the two times. -/
theorem c03_oneway_succeeds_whatever_wait (d : Defs) (n : Nat) (key : String) (args : Val)
    (h : Val → HOutcome) (wait timeout : Nat) (hargs : WT d n (.struct (key ++ "_args")) args) :
    (callQ d n key true args h wait timeout).result = .void := by
  rw [callQ_oneway_eq_call]
  exact c03_oneway_no_reply d n key args h hargs

/-- A two-way call is handled exactly once with equal arguments whether or not its caller was still waiting:
the caller observes the outcome of `call` when the reply came in time, TIMED_OUT otherwise. -/
theorem c03_twoway_handled_once_whatever_wait (d : Defs) (n : Nat) (key : String) (args : Val)
    (h : Val → HOutcome) (wait timeout : Nat) (hargs : WT d n (.struct (key ++ "_args")) args) :
    (callQ d n key false args h wait timeout).calls = 1 ∧
    (callQ d n key false args h wait timeout).args = some args ∧
    (wait < timeout → (callQ d n key false args h wait timeout).result = (call d n key false args h).result) ∧
    (timeout ≤ wait → (callQ d n key false args h wait timeout).result = .timedOut) := by
  have hc := c03_handler_once_equal_args d n key false args h hargs
  have hq := callQ_calls d n key false args h wait timeout
  obtain ⟨es, hes⟩ := enc_total d n _ args hargs
  have hsent : sent d n key args = true := by simp [sent, hes]
  refine ⟨hq.1.trans hc.1, hq.2.trans hc.2, ?_, ?_⟩
  · intro hw; rw [callQ_eq_call_of_in_time d n key args h wait timeout hw]
  · intro hw; exact callQ_timedOut_of_late d n key args h wait timeout hw hsent

/-- Never twice, and never with arguments other than `call`'s — for ANY argument value (well typed or not),
any wait, any timeout, oneway or not. -/
theorem c03_at_most_once_whatever_wait (d : Defs) (n : Nat) (key : String) (oneway : Bool) (args : Val)
    (h : Val → HOutcome) (wait timeout : Nat) :
    (callQ d n key oneway args h wait timeout).calls ≤ 1 ∧
    (callQ d n key oneway args h wait timeout).args = (call d n key oneway args h).args := by
  have hq := callQ_calls d n key oneway args h wait timeout
  exact ⟨hq.1 ▸ call_calls_le_one d n key oneway args h, hq.2⟩

/-- Inherited methods behave identically: through the child's processor a method the child does not
redefine dispatches to the very same processor function (same args/result structs, same handler
method) as through the parent's own processor — so all the theorems above apply to it unchanged. -/
theorem c03_inherited_same (svcs : List Service) (fuel : Nat) (child : Service) (p m : String)
    (hc : svcs.find? (·.key = child.key) = some child) (hp : child.parent = some p)
    (hm : m ∉ child.methods) :
    dispatch (procMap svcs (fuel + 1) child.key) m = dispatch (procMap svcs fuel p) m := by
  simp only [procMap, hc, hp, dispatch, List.reverse_append, List.find?_append]
  have hnone : List.find? (fun x : String × String => decide (x.1 = m))
      (child.methods.map fun m' => (m', child.key ++ "_" ++ m')).reverse = none := by
    rw [List.find?_eq_none]
    intro x hx
    simp only [List.mem_reverse, List.mem_map] at hx
    obtain ⟨m', hm', rfl⟩ := hx
    simp only [decide_eq_true_eq]
    intro e; exact hm (e ▸ hm')
  rw [hnone]; simp

/-! Non-vacuity: a child with one own method extending a parent with two. -/
example : dispatch (procMap [⟨"f/Base", none, ["ping", "get"]⟩, ⟨"f/Svc", some "f/Base", ["put"]⟩] 3 "f/Svc") "get"
    = some "f/Base_get" := by decide

/-! Non-vacuity of the time dimension: a oneway `ping()` whose request waited 400 ms with a 100 ms timeout is
handled once; the two-way `ping()` is handled too and its caller observes TIMED_OUT. -/
def exDefsQ : Defs := ⟨[], [], [⟨.struct, "f/S_ping_args", "ping_args", []⟩, ⟨.struct, "f/S_ping_result", "ping_result", []⟩]⟩

example : WT exDefsQ 4 (.struct "f/S_ping_args") (.struct []) := by
  decide +kernel

example : (callQ exDefsQ 4 "f/S_ping" true (.struct []) (fun _ => .value none) 400 100).calls = 1 := by decide +kernel
example : (callQ exDefsQ 4 "f/S_ping" false (.struct []) (fun _ => .value none) 400 100).calls = 1 := by decide +kernel
example : (callQ exDefsQ 4 "f/S_ping" false (.struct []) (fun _ => .value none) 400 100).result matches .timedOut := by
  decide +kernel
example : (callQ exDefsQ 4 "f/S_ping" false (.struct []) (fun _ => .value none) 40 100).result matches .void := by
  decide +kernel

end FV.C03
