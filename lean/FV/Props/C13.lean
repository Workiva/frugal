/-
C13 — Every call returns within its FContext timeout.

  "For every positive timeout and every peer behaviour (never answering,
  answering late, stalling writes), Request and Oneway on every transport return
  no later than the timeout plus a small scheduling allowance, report TIMED_OUT
  when no response arrived in time, and leave no registration behind."

What is a theorem here is the LOGICAL half: in no reachable state of the
correlation model — whatever the reader, the send goroutine (started with `go`,
so its blocking is not the caller's), other callers or the peer did — is a
started call without an enabled step of its own; in the `select` the timeout arm
is always enabled; a call returns after at most three own steps; every return
path unregisters. The real-time half (an enabled goroutine runs within the
scheduling allowance; timers fire on time) is runtime behaviour the model cannot
exhibit — it is measured against the real transports by the correspondence
harness, not proved (PARTIAL, see DESIGN §7 C13).
-/
import FV.Model.Registry
import FV.Proofs.Registry
import FV.Generated.Params
import FV.Proofs.Context
import FV.Proofs.LockFacts

namespace FV.C13
open FV.Reg

/-- While a call waits in its `select`, the timeout arm is enabled — no state of the reader,
of the registry lock, of any channel or of any other caller can disable it. -/
theorem c13_timeout_always_enabled (s : Sys) (i : Nat) (c : Caller)
    (hc : s.callers[i]? = some c) (hw : c.pc = .waiting) : (step s (.timeout i)).isSome := by
  simp [step, hc, hw]

/-- A call that has not returned always has an enabled step of its own (it is never stuck
behind another goroutine). -/
theorem c13_never_stuck (s : Sys) (i : Nat) (c : Caller) (hc : s.callers[i]? = some c)
    (hnd : ∀ o, c.pc ≠ .done o) :
    (step s (.register i)).isSome ∨ (step s (.timeout i)).isSome ∨ (step s (.unregister i)).isSome := by
  cases hp : c.pc with
  | new =>
    left
    simp only [step, hc, hp]
    split
    · rename_i h; exact absurd rfl h
    · split <;> rfl
  | waiting => right; left; simp [step, hc, hp]
  | leaving o => right; right; simp [step, hc, hp]
  | done o => exact absurd hp (hnd o)

/-- From the `select`, timing out and returning takes exactly two own steps, and the outcome
is TIMED_OUT. -/
theorem c13_timeout_returns (s : Sys) (i : Nat) (c : Caller) (hc : s.callers[i]? = some c)
    (hw : c.pc = .waiting) :
    ∃ s1 s2 c2, step s (.timeout i) = some s1 ∧ step s1 (.unregister i) = some s2 ∧
      s2.callers[i]? = some c2 ∧ c2.pc = .done .timedOut := by
  refine ⟨{ s with callers := updCaller s.callers i (fun c => c.setPc (.leaving .timedOut)) },
    { s with callers := updCaller (updCaller s.callers i (fun c => c.setPc (.leaving .timedOut))) i (fun c => c.setPc (.done .timedOut)),
             registry := s.registry.filter (fun e => e.1 ≠ c.opid) },
    (c.setPc (.leaving .timedOut)).setPc (.done .timedOut), ?_, ?_, ?_, rfl⟩
  · simp [step, hc, hw]
  · simp only [step, get_upd, if_true, hc, Option.map_some, setPc_pc, setPc_opid]; rfl
  · simp [get_upd, hc]

/-- A successful outcome requires a delivered frame: `recv` is enabled only on a non-empty
channel; so a caller whose channel stayed empty can only leave through timeout or send error. -/
theorem c13_no_frame_no_success (s : Sys) (i : Nat) (c : Caller) (hc : s.callers[i]? = some c)
    (hempty : c.buf = []) : step s (.recv i) = none := by
  simp only [step, hc]
  split
  · rfl
  · simp [hempty]

/-- Every return path leaves no registration behind (distinct op ids). -/
theorem c13_no_registration_left (cap : Nat) (b : Bool) (os : List OpId) (hnd : os.Nodup) (s : Sys)
    (hr : Reachable cap b os s) (i : Nat) (c : Caller) (o : Outcome)
    (hc : s.callers[i]? = some c) (hd : c.pc = .done o) : ∀ j, (c.opid, j) ∉ s.registry :=
  done_not_registered hnd hr hc hd

/-- The adapter transport runs `send` in its own goroutine, so a write or flush that blocks
does not keep the caller out of its `select` (regenerated from adapter_transport.go). -/
theorem c13_code_send_async : FV.Params.adapterSendInGoroutine = true := by decide

/-- `Unregister` is deferred in both `Request` implementations, so it runs on every return path. -/
theorem c13_code_unregister_deferred :
    FV.Params.adapterUnregisterDeferred = true ∧ FV.Params.natsUnregisterDeferred = true := by decide

/-! Non-vacuity: a silent peer; the call times out and unregisters. -/
example : ∃ s, run (init 1 false [5]) [.register 0, .timeout 0, .unregister 0] = some s ∧
    s.callers = [⟨5, .done .timedOut, []⟩] ∧ s.registry = [] := ⟨_, rfl, by decide, by decide⟩

/-- **Lock discipline behind the model's atomic steps** (registry, adapter lifecycle lock, framed reader):
conditions (N) and (L) of FV/Model/Locks.lean for these mutexes (tags: `FV.Generated.Locks.mutexTags`), decided by
the kernel on the facts regenerated from lib/go on every check (spelt out at `FV.C01.c01_lock_discipline`). -/
theorem c13_lock_discipline :
    FV.Locks.ok [1, 2, 3] FV.Generated.Locks.mutexTags FV.Generated.Locks.facts = true :=
  FV.Locks.ok_of_closed FV.Generated.Locks.facts_closed (by decide +kernel)

/-- **No lifecycle lock on the call path**: Request and Oneway of the adapter, NATS and HTTP client transports
acquire — on every resolved call path, facts regenerated from lib/go on every check — no mutex tagged as
the adapter's lifecycle lock. That lock is held by Open / Close across the underlying transport's Open /
Close, which can stall in the network for arbitrarily long (a monitor's reconnect hanging in connect): a call
that had to take it would return arbitrarily later than its FContext timeout. -/
theorem c13_calls_take_no_lifecycle_lock :
    FV.Locks.rootsAvoid [2] FV.Generated.Locks.mutexTags FV.Generated.Locks.facts FV.Generated.Locks.callRoots = true :=
  FV.Locks.rootsAvoid_of_closed FV.Generated.Locks.facts_closed (by decide +kernel)

/-- …stated over call paths (`FV.Locks.rootsAvoid_sound`). -/
theorem c13_no_lifecycle_lock_on_any_call_path {f h : Nat} (hf : f ∈ FV.Generated.Locks.callRoots)
    (hr : FV.Locks.Reach FV.Generated.Locks.facts f h) {fnh : FV.Locks.Fn}
    (hh : FV.Generated.Locks.facts[h]? = some fnh) {m : Nat} (hm : m ∈ fnh.acquires)
    (hlt : m < FV.Generated.Locks.mutexTags.length) :
    [2].contains (FV.Generated.Locks.mutexTags.getD m 0) = false :=
  FV.Locks.rootsAvoid_sound _ _ _ _ c13_calls_take_no_lifecycle_lock hf hr hh hm hlt

/-- **Every positive timeout is a deadline**: for every positive `time.Duration` (int64 nanoseconds), what
`SetTimeout` writes into the `_timeout` header is read back by `Timeout()` as a POSITIVE duration — so
`ToContext`, which installs a deadline exactly when `Timeout() > 0`, never turns a positive timeout into "no
deadline" (before fix "SetTimeout rounds a positive sub-millisecond timeout up" a timeout below 1 ms was
written as 0 and an adapter Request against a silent peer never returned: `c13_tiny_timeout_unfixed_counterexample`). -/
theorem c13_positive_timeout_is_a_deadline (ns : Int) (h : 0 < ns) (hhi : ns < 9223372036854775808) :
    0 < FV.decodeTimeout (FV.encodeTimeout ns) := by
  unfold FV.encodeTimeout
  split
  · rw [FV.decodeTimeout_formatInt 1 (by decide) (by decide)]; decide
  · rename_i hn
    have hne : Int.tdiv ns FV.nsPerMs ≠ 0 := fun e => hn ⟨h, e⟩
    have hpos : 0 ≤ Int.tdiv ns FV.nsPerMs := Int.tdiv_nonneg (by omega) (by decide)
    have hle : Int.tdiv ns FV.nsPerMs * 1000000 ≤ ns := by
      have h1 := Int.tdiv_mul_le ns (b := FV.nsPerMs) (by decide)
      simp only [FV.nsPerMs] at h1 ⊢
      have h2 : (0 : Int) ≤ ns := by omega
      simp only [h2, if_true] at h1
      omega
    rw [FV.decodeTimeout_formatInt _ (by omega) (by omega)]
    omega

/-- The truncating encoding the code had before the fix: 500 µs was written as "0", which `Timeout()`
reads as 0 — no deadline. -/
theorem c13_tiny_timeout_unfixed_counterexample :
    FV.decodeTimeout (FV.formatInt (Int.tdiv 500000 FV.nsPerMs)) = 0 := by
  rw [show Int.tdiv 500000 FV.nsPerMs = 0 by decide, FV.decodeTimeout_formatInt 0 (by decide) (by decide)]; rfl

end FV.C13
