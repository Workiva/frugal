/-
C06 — The inbound path never stalls: no head-of-line blocking.

  "For every sequence of inbound frames, including duplicated, unsolicited and
  late responses, the client transport keeps consuming and delivering
  subsequent frames, so the response to one in-flight request is delivered
  promptly regardless of what was received before it and regardless of other
  requests being slow, timed out or abandoned."

The reader goroutine's next step is never disabled (`step … ≠ none`), in every
reachable state, for a `dispatch` whose send does not block
(`sendBlocking = false` — tied to the source through `Generated/Params`), and a
fresh response is delivered in two reader steps whatever came before.
-/
import FV.Model.Registry
import FV.Proofs.Registry
import FV.Generated.Params
import FV.Proofs.LockFacts

namespace FV.C06
open FV.Reg

/-- The reader is never blocked: whatever the callers do or have done, its next action is
enabled — the send when it holds a frame, a lookup of ANY next frame when it is idle. -/
theorem c06_reader_never_blocks (cap : Nat) (os : List OpId) (s : Sys) (hr : Reachable cap false os s) :
    (∀ ch f, s.reader = .lookedUp ch f → (step s .readerSend).isSome) ∧
    (s.reader = .idle → ∀ f, (step s (.readerLookup f)).isSome) := by
  have hb : s.sendBlocking = false := (reachable_params hr).2.2
  constructor
  · intro ch f hrd
    obtain ⟨c, hc, _⟩ := (reachable_rinv hr).rdr ch f hrd
    simp only [step, hrd, hc, hb]
    split <;> simp
  · intro hidle f
    simp only [step, hidle]
    split <;> simp

/-- The code's `dispatch` is the non-blocking one (regenerated from registry.go on every check). -/
theorem c06_code_send_nonblocking : FV.Params.dispatchSendBlocking = false := by decide

/-- The result channels the code creates have room for the response (regenerated from source). -/
theorem c06_code_capacity : 1 ≤ FV.Params.resultChanCapAdapter ∧ 1 ≤ FV.Params.resultChanCapNats := by decide

/-- The number of reader steps per inbound frame is at most 2 (lookup, send), independent of the state:
after a lookup the reader is idle again (frame discarded) or holds the frame; after the send it is idle. -/
theorem c06_bounded_work (s s' : Sys) (f : Frame) (h : step s (.readerLookup f) = some s') :
    s'.reader = .idle ∨ (∃ ch, s'.reader = .lookedUp ch f ∧ ∀ s'', step s' .readerSend = some s'' → s''.reader = .idle) := by
  cases step_sound h with
  | lookupMiss hr _ => exact .inl hr
  | lookupHit _ _ => exact .inr ⟨_, rfl, fun s'' h2 => by cases step_sound h2 <;> rfl⟩

/-- A fresh response is delivered: for a caller that is waiting with an empty channel, the
frame with its op id ends up in its channel after the reader's two steps — regardless of the
history that led to the state (duplicates, unknown ids, late frames, slow or abandoned callers). -/
theorem c06_fresh_response_delivered (cap : Nat) (os : List OpId) (hnd : os.Nodup) (hcap : 1 ≤ cap)
    (s : Sys) (hr : Reachable cap false os s) (i : Nat) (c : Caller) (t : Nat)
    (hc : s.callers[i]? = some c) (hw : c.pc = .waiting) (hbuf : c.buf = []) (hidle : s.reader = .idle) :
    ∃ s1 s2 c2, step s (.readerLookup ⟨c.opid, t⟩) = some s1 ∧ step s1 .readerSend = some s2 ∧
      s2.callers[i]? = some c2 ∧ c2.buf = [⟨c.opid, t⟩] ∧ c2.pc = .waiting := by
  have hl : lookup s.registry c.opid = some i := (lookup_eq_some_iff hnd hr _ _).mpr ⟨c, hc, rfl, Or.inl hw⟩
  refine ⟨{ s with reader := .lookedUp i ⟨c.opid, t⟩ },
    { s with callers := updCaller s.callers i (fun c' => c'.push ⟨c.opid, t⟩), reader := .idle },
    c.push ⟨c.opid, t⟩, ?_, ?_, ?_, ?_, ?_⟩
  · simp [step, hidle, hl]
  · simp only [step, hc, hbuf, List.length_nil]
    rw [if_pos (by rw [(reachable_params hr).2.1]; omega)]
  · simp only [get_upd, if_true, hc, Option.map_some]
  · simp [hbuf]
  · simpa using hw

/-- With a blocking send (the code before the fix) the property is false: three frames for one
held registration wedge the reader, and every later response on the transport is lost. -/
theorem c06_counterexample_blocking_send :
    ∃ s, run (init 1 true [7])
      [.register 0, .readerLookup ⟨7, 1⟩, .readerSend, .readerLookup ⟨7, 2⟩] = some s ∧
      step s .readerSend = none ∧ ∀ f, step s (.readerLookup f) = none := by
  refine ⟨_, rfl, by decide, ?_⟩
  intro f; rfl

/-! Non-vacuity of the delivery theorem's hypotheses. -/
example : ∃ s, Reachable 1 false [3, 4] s ∧ s.reader = .idle ∧
    s.callers[1]? = some ⟨4, .waiting, []⟩ :=
  ⟨_, ⟨[.register 0, .register 1, .readerLookup ⟨3, 0⟩, .readerSend, .readerLookup ⟨3, 1⟩, .readerSend], rfl⟩, rfl, rfl⟩

/-- **Lock discipline behind the model's atomic steps** (registry, adapter lifecycle lock, framed reader):
conditions (N) and (L) of FV/Model/Locks.lean for these mutexes, decided by the kernel on the facts regenerated
from lib/go on every check (spelt out at `FV.C01.c01_lock_discipline`). -/
theorem c06_lock_discipline :
    FV.Locks.ok [1, 2, 3] FV.Generated.Locks.mutexTags FV.Generated.Locks.facts = true :=
  FV.Locks.ok_of_closed FV.Generated.Locks.facts_closed (by decide +kernel)

/-- What the decided discipline means for EVERY call path of lib/go's (resolved) call graph: a call made under
one of these mutexes never reaches, however deep, a function that acquires the same mutex
(`FV.Locks.closed_sound`: the mask table is closed under calls, so the number of rounds is not trusted). -/
theorem c06_no_nested_lock_on_any_call_path {fn : FV.Locks.Fn} (hfn : fn ∈ FV.Generated.Locks.facts)
    {m g h : Nat} (hheld : (m, g) ∈ fn.heldCalls)
    (hrel : FV.Locks.relevant [1, 2, 3] FV.Generated.Locks.mutexTags m = true)
    (hr : FV.Locks.Reach FV.Generated.Locks.facts g h) {fnh : FV.Locks.Fn}
    (hh : FV.Generated.Locks.facts[h]? = some fnh) : m ∉ fnh.acquires :=
  FV.Locks.ok_no_nested_path _ _ _ c06_lock_discipline hfn hheld hrel hr hh

/-- **No lock-order cycle** among the mutexes of lib/go (all tags): `m → m'` when some function acquires `m'`,
itself or through callees, while it holds `m`; no mutex reaches itself — the two-lock deadlock is excluded on
the regenerated facts (today the only edges lead to the logger's mutex). -/
theorem c06_lock_order_acyclic :
    FV.Locks.acyclic [1, 2, 3, 4, 5, 6, 7, 8] FV.Generated.Locks.mutexTags FV.Generated.Locks.facts = true :=
  FV.Generated.Locks.lock_order_acyclic

/-- …and what that decision means (`FV.Locks.acyclic_sound`): no mutex of lib/go lies on a cycle of order edges
`m → m'` ("m' is acquired — lexically, or by anything reachable from a call — while m is held"), over every
call path of the recorded call graph. -/
theorem c06_no_lock_order_cycle {m : Nat}
    (hrel : FV.Locks.relevant [1, 2, 3, 4, 5, 6, 7, 8] FV.Generated.Locks.mutexTags m = true) :
    ¬ FV.Locks.Chain FV.Generated.Locks.facts m m :=
  FV.Locks.acyclic_sound _ _ _ c06_lock_order_acyclic hrel

/-- **Fields are written under their lock** (regenerated from lib/go on every check): no method writes a field
of a mutex-holding struct (the registry's channel map) while no mutex of that struct is write-held — by assignment, `++`, `delete` or an
atomic store — unless the site is one of the hand-classified set-up / single-owner sites of
`known/locks_unguarded_expected.txt`. The atomic-step models read and write such state in ONE critical section;
a value computed from a read under the lock and stored after it was released (a lazily filled cache) is a lost
update the models cannot exhibit and the race detector does not see. -/
theorem c06_fields_written_under_lock :
    FV.Locks.writesGuarded [1] FV.Generated.Locks.unguardedUnexpected = true := by decide +kernel

/-- **Locks held across calls are released by defer** (regenerated from lib/go on every check): no function calls
anything while it holds a mutex that only a hand-written `Unlock` releases, except the hand-classified callees that
cannot panic (`manual:` lines of `known/locks_unguarded_expected.txt`). The models release a mutex on EVERY exit of
a critical section, a panic included — the servers recover panics of user-supplied code and keep serving, so a
hand-released mutex would stay locked and every later request behind it would go unanswered. -/
theorem c06_locks_released_by_defer :
    FV.Locks.releasedByDefer [1] FV.Generated.Locks.manualUnexpected = true := by decide +kernel

end FV.C06
