/-
C09 — The request context travels with the call and back.

  "For every set of user request headers, correlation id and timeout placed on an
  FContext, the server-side handler (or subscriber callback) observes exactly those
  user headers, correlation id and timeout, and every response header the handler
  sets is visible on the caller's FContext when the call returns. The response
  carries the request's op id and correlation id, and the context given to the
  handler carries a fresh op id so it can be used for onward calls without
  colliding."

Setting of every theorem (all THROUGH the wire, composed with C04's round trips):

* the caller's context is `callerCtx cid opid U ms` = `NewFContext(cid)` (op id `opid`
  from the counter; `cid` is the correlation id the context holds, i.e. after an empty
  argument was replaced by a generated id), `AddRequestHeader` for every pair of `U`,
  `SetTimeout(ms · 1ms)`;
* `U` is any list of user headers with distinct names, none of them reserved
  (`UserOK U`: `_opid`, `_cid`, `_timeout` excluded — H of the design);
* `WriteRequestHeader` writes `marshal w` for SOME iteration order `w` of the request
  map (`w.Perm (callerCtx …).req`: every order Go's map iteration can produce), followed
  by any payload `p` (the Thrift message);
* the server runs `ReadRequestHeader` on these bytes with its op id counter at `ctr`;
* the handler sets any response headers `R`; `WriteResponseHeader` writes `marshal w'`
  for some order `w'` of the handler context's response map, followed by a payload `p'`;
* the caller runs `ReadResponseHeader` into its context (whose response headers before
  the call are arbitrary: `prior` — a propagated context already holds an `_opid`).

Size hypothesis (`C04.Small`): a header block fits the code's int32 arithmetic.
Timeouts: whole milliseconds `0 ≤ ms ≤ 9223372036854` = ⌊2^63 / 10^6⌋ (every non-negative whole-ms
`time.Duration`); sub-millisecond parts are truncated by `SetTimeout` (excluded region).
Other numerals: 9223372036854775808 = 2^63 (the range of int64), 18446744073709551616 = 2^64 (the op id counter is a uint64).
-/
import FV.Model.Context
import FV.Props.C04
import FV.Proofs.Headers
import FV.Proofs.Context
import FV.Proofs.ContextOnward

namespace FV.C09
open FV FV.C04

/-- User headers: distinct names, none reserved. -/
def UserOK (U : Hdrs) : Prop :=
  U.keys.Nodup ∧ opIdHeader ∉ U.keys ∧ cidHeader ∉ U.keys ∧ timeoutHeader ∉ U.keys

/-- Whole-millisecond timeouts representable as a non-negative `time.Duration`. -/
def WholeMs (ms : Int) : Prop := 0 ≤ ms ∧ ms ≤ 9223372036854

/-- The caller's context. -/
def callerCtx (cid : Bytes) (opid : Nat) (U : Hdrs) (ms : Int) : Ctx := clientCtx cid opid U (ms * 1000000) []

/-- The handler's view of the request: user headers, `_cid`, `_timeout`, and its own fresh `_opid`. -/
def handlerView (cid : Bytes) (fresh : Nat) (U : Hdrs) (ms : Int) : Hdrs :=
  (opIdHeader, natDigits fresh) :: (cidHeader, cid) :: (timeoutHeader, formatInt ms) :: U

private theorem callerCtx_req (cid : Bytes) (opid : Nat) (U : Hdrs) (ms : Int) (hU : UserOK U) :
    (callerCtx cid opid U ms).req =
      (cidHeader, cid) :: (opIdHeader, natDigits opid) :: (timeoutHeader, formatInt ms) :: U := by
  unfold callerCtx
  rw [clientCtx_req cid opid U _ hU.1 hU.2.1 hU.2.2.1 hU.2.2.2, encodeTimeout_whole]

/-- What the caller's request map holds under the reserved names. -/
private theorem caller_get? (cid : Bytes) (opid : Nat) (U : Hdrs) (ms : Int) (hU : UserOK U) :
    (callerCtx cid opid U ms).req.get? opIdHeader = some (natDigits opid) ∧
    (callerCtx cid opid U ms).req.get? cidHeader = some cid ∧
    (callerCtx cid opid U ms).req.get? timeoutHeader = some (formatInt ms) := by
  rw [callerCtx_req cid opid U ms hU]
  exact ⟨by rw [Hdrs.get?_cons_ne _ _ op_ne_cid.symm, Hdrs.get?_cons_self], Hdrs.get?_cons_self ..,
    by rw [Hdrs.get?_cons_ne _ _ cid_ne_tmo, Hdrs.get?_cons_ne _ _ op_ne_tmo, Hdrs.get?_cons_self]⟩

/-- The context `ReadRequestHeader` returns for a written request, exactly: the decoded map
without `_opid` plus a fresh `_opid` (counter + 1); response headers = the request's op id and
the correlation id (when non-empty); the payload is left on the transport. -/
theorem c09_server_context (U : Hdrs) (cid : Bytes) (opid : Nat) (ms : Int) (ctr : Nat) (w : Hdrs) (p : Bytes)
    (hU : UserOK U) (hw : w.Perm (callerCtx cid opid U ms).req) (hs : Small w) :
    readRequestHeader (marshal w ++ p) ctr =
      .ok (⟨w.without opIdHeader ++ [(opIdHeader, natDigits (ctr + 1))], replyIds (natDigits opid) cid⟩, p) := by
  have hndw : w.keys.Nodup := (hw.map Prod.fst).nodup_iff.mpr (by
    rw [callerCtx_req cid opid U ms hU]
    exact Hdrs.nodup_cons3 _ _ _ U op_ne_cid.symm cid_ne_tmo op_ne_tmo hU.1 hU.2.2.1 hU.2.1 hU.2.2.2)
  obtain ⟨hop, hcid, _⟩ := caller_get? cid opid U ms hU
  rw [← Hdrs.get?_perm w _ hw hndw] at hop hcid
  have hsv := serverCtx_eq w (ctr + 1) _ hndw hop
  rw [hcid] at hsv
  exact readRequestHeader_ok _ p w ctr _ (c04_stream_roundtrip w p hndw hs) hsv

private theorem handler_perm (U : Hdrs) (cid : Bytes) (opid : Nat) (ms : Int) (fresh : Nat) (w : Hdrs)
    (hU : UserOK U) (hw : w.Perm (callerCtx cid opid U ms).req) :
    (w.without opIdHeader ++ [(opIdHeader, natDigits fresh)]).Perm (handlerView cid fresh U ms) := by
  have h1 := Hdrs.without_perm _ _ opIdHeader hw
  rw [callerCtx_req cid opid U ms hU] at h1
  rw [Hdrs.without_cons_ne _ _ op_ne_cid.symm, Hdrs.without_cons_self, Hdrs.without_cons_ne _ _ op_ne_tmo.symm,
    Hdrs.without_of_not_mem U opIdHeader hU.2.1] at h1
  exact List.perm_append_comm.trans (List.Perm.cons _ h1)

/-- What the handler's request map holds: its own fresh `_opid`, the caller's `_cid` and `_timeout`, and under
every other name what the caller's user headers hold. -/
private theorem handler_get? (U : Hdrs) (cid : Bytes) (opid : Nat) (ms : Int) (fresh : Nat) (w : Hdrs)
    (hU : UserOK U) (hw : w.Perm (callerCtx cid opid U ms).req) :
    Hdrs.get? (w.without opIdHeader ++ [(opIdHeader, natDigits fresh)]) opIdHeader = some (natDigits fresh) ∧
    Hdrs.get? (w.without opIdHeader ++ [(opIdHeader, natDigits fresh)]) cidHeader = some cid ∧
    Hdrs.get? (w.without opIdHeader ++ [(opIdHeader, natDigits fresh)]) timeoutHeader = some (formatInt ms) ∧
    ∀ k, k ≠ opIdHeader → k ≠ cidHeader → k ≠ timeoutHeader →
      Hdrs.get? (w.without opIdHeader ++ [(opIdHeader, natDigits fresh)]) k = U.get? k := by
  have hp := handler_perm U cid opid ms fresh w hU hw
  have hnd := (hp.map Prod.fst).nodup_iff.mpr
    (Hdrs.nodup_cons3 _ _ _ U op_ne_cid op_ne_tmo cid_ne_tmo hU.1 hU.2.1 hU.2.2.1 hU.2.2.2)
  simp only [Hdrs.get?_perm _ _ hp hnd, handlerView]
  refine ⟨Hdrs.get?_cons_self .., by rw [Hdrs.get?_cons_ne _ _ op_ne_cid, Hdrs.get?_cons_self],
    by rw [Hdrs.get?_cons_ne _ _ op_ne_tmo, Hdrs.get?_cons_ne _ _ cid_ne_tmo, Hdrs.get?_cons_self], ?_⟩
  intro k n1 n2 n3
  rw [Hdrs.get?_cons_ne _ _ n1.symm, Hdrs.get?_cons_ne _ _ n2.symm, Hdrs.get?_cons_ne _ _ n3.symm]

/-- **The handler observes exactly what the caller placed on the context.** Its request headers
are (a permutation of) the user headers `U`, `_cid`, `_timeout` and a fresh `_opid`: every user
header is there with its value, no other name is, the correlation id and `Timeout()` are the
caller's, and the payload after the header is untouched. -/
theorem c09_request_seen (U : Hdrs) (cid : Bytes) (opid : Nat) (ms : Int) (ctr : Nat) (w : Hdrs) (p : Bytes)
    (hU : UserOK U) (hms : WholeMs ms) (hw : w.Perm (callerCtx cid opid U ms).req) (hs : Small w) :
    ∃ sctx, readRequestHeader (marshal w ++ p) ctr = .ok (sctx, p) ∧
      sctx.req.Perm (handlerView cid (ctr + 1) U ms) ∧
      (∀ k v, (k, v) ∈ U → sctx.req.get? k = some v) ∧
      (∀ k, k ∉ U.keys → k ≠ opIdHeader → k ≠ cidHeader → k ≠ timeoutHeader → sctx.req.get? k = none) ∧
      sctx.correlationID = cid ∧ sctx.correlationID = (callerCtx cid opid U ms).correlationID ∧
      sctx.timeout = ms * 1000000 ∧ sctx.timeout = (callerCtx cid opid U ms).timeout := by
  obtain ⟨_, hcid, htmo, huser⟩ := handler_get? U cid opid ms (ctr + 1) w hU hw
  obtain ⟨_, ccid, ctmo⟩ := caller_get? cid opid U ms hU
  -- `CorrelationID()` and `Timeout()` read one header each: equal lookups, equal answers
  have hc : ∀ c : Ctx, c.req.get? cidHeader = some cid → c.correlationID = cid := fun c e => by
    rw [Ctx.correlationID, e]; rfl
  have ht : ∀ c : Ctx, c.req.get? timeoutHeader = some (formatInt ms) → c.timeout = ms * 1000000 := fun c e => by
    rw [Ctx.timeout, e]; exact decodeTimeout_formatInt ms (by have := hms.1; omega) hms.2
  refine ⟨_, c09_server_context U cid opid ms ctr w p hU hw hs, handler_perm U cid opid ms _ w hU hw, ?_, ?_,
    hc _ hcid, (hc _ hcid).trans (hc _ ccid).symm, ht _ htmo, (ht _ htmo).trans (ht _ ctmo).symm⟩
  · intro k v hkv
    have hk : k ∈ U.keys := List.mem_map_of_mem (f := Prod.fst) hkv
    exact (huser k (fun e => hU.2.1 (e ▸ hk)) (fun e => hU.2.2.1 (e ▸ hk)) (fun e => hU.2.2.2 (e ▸ hk))).trans
      ((Hdrs.get?_eq_some_iff U hU.1 k v).mpr hkv)
  · intro k hk n1 n2 n3
    exact (huser k n1 n2 n3).trans (Hdrs.get?_none_of_not_mem U k hk)

/-- **The context given to the handler carries a fresh op id**: the next value of the server's
counter (`getOpID` returns it), different from every id the counter issued before, and different
from the request's op id unless that is by coincidence the same number (two processes have
independent counters; within one process the request's id was issued before, so it differs). -/
theorem c09_fresh_opid (U : Hdrs) (cid : Bytes) (opid : Nat) (ms : Int) (ctr : Nat) (w : Hdrs) (p : Bytes)
    (hU : UserOK U) (hw : w.Perm (callerCtx cid opid U ms).req) (hs : Small w) (hctr : ctr + 1 < 18446744073709551616) :
    ∃ sctx, readRequestHeader (marshal w ++ p) ctr = .ok (sctx, p) ∧ ctrAfterRead (marshal w ++ p) ctr = ctr + 1 ∧
      sctx.req.get? opIdHeader = some (natDigits (ctr + 1)) ∧ sctx.opId = .ok (ctr + 1) ∧
      (∀ issued, issued ≤ ctr → sctx.req.get? opIdHeader ≠ some (natDigits issued)) ∧
      (opid ≠ ctr + 1 → sctx.req.get? opIdHeader ≠ (callerCtx cid opid U ms).req.get? opIdHeader) := by
  have hrd := c09_server_context U cid opid ms ctr w p hU hw hs
  have hop := (handler_get? U cid opid ms (ctr + 1) w hU hw).1
  refine ⟨_, hrd, ctrAfterRead_ok _ ctr _ hrd, hop, ?_, ?_, ?_⟩
  · simp only [Ctx.opId, hop, parseU64_natDigits _ hctr]
  · intro issued hle
    exact ne_some_natDigits hop (by omega)
  · intro hne
    rw [(caller_get? cid opid U ms hU).1]
    exact ne_some_natDigits hop hne.symm

/-- **Freshness under concurrency.** `getNextOpID` is an atomic fetch-and-add (trusted; tied to the
code on every run by the `c9ids` op, which has many goroutines create and receive contexts at the
same time): `n` concurrent calls from counter value `ctr` take effect one after the other and return
`issuedIds ctr n`. Those ids are pairwise distinct and none of them was issued before; and two
requests — any headers, any callers — that are read with different counter values give the two
handlers contexts with different op ids, so both can be used for onward calls at the same time. -/
theorem c09_fresh_concurrent :
    (∀ ctr n : Nat, (issuedIds ctr n).Nodup ∧ (issuedIds ctr n).length = n ∧
      (∀ issued, issued ≤ ctr → natDigits issued ∉ issuedIds ctr n)) ∧
    (∀ (U U' : Hdrs) (cid cid' : Bytes) (opid opid' : Nat) (ms ms' : Int) (ctr ctr' : Nat) (w w' : Hdrs) (p p' : Bytes),
      UserOK U → UserOK U' → w.Perm (callerCtx cid opid U ms).req → w'.Perm (callerCtx cid' opid' U' ms').req →
      Small w → Small w' → ctr ≠ ctr' →
      ∃ s s', readRequestHeader (marshal w ++ p) ctr = .ok (s, p) ∧
        readRequestHeader (marshal w' ++ p') ctr' = .ok (s', p') ∧
        s.req.get? opIdHeader = some (natDigits (ctr + 1)) ∧ s'.req.get? opIdHeader = some (natDigits (ctr' + 1)) ∧
        s.req.get? opIdHeader ≠ s'.req.get? opIdHeader) := by
  refine ⟨fun ctr n => ⟨?_, by simp [issuedIds], ?_⟩, ?_⟩
  · unfold issuedIds
    refine List.Pairwise.map _ ?_ (List.nodup_range (n := n))
    intro a b hab e
    have := natDigits_injective e
    omega
  · intro issued hle hm
    simp only [issuedIds, List.mem_map, List.mem_range] at hm
    obtain ⟨i, _, e⟩ := hm
    have := natDigits_injective e
    omega
  · intro U U' cid cid' opid opid' ms ms' ctr ctr' w w' p p' hU hU' hw hw' hs hs' hne
    have h1 := (handler_get? U cid opid ms (ctr + 1) w hU hw).1
    have h2 := (handler_get? U' cid' opid' ms' (ctr' + 1) w' hU' hw').1
    exact ⟨_, _, c09_server_context U cid opid ms ctr w p hU hw hs, c09_server_context U' cid' opid' ms' ctr' w' p' hU' hw' hs', h1, h2,
      fun e => ne_some_natDigits h1 (by omega) (e.trans h2)⟩

/-- Whatever the handler adds, a written order of its response map has distinct names. -/
private theorem reply_nodup (o cid : Bytes) (R w' : Hdrs) (hw' : w'.Perm (Hdrs.setAll (replyIds o cid) R)) :
    w'.keys.Nodup := by
  refine (hw'.map Prod.fst).nodup_iff.mpr (Hdrs.nodup_setAll R _ ?_)
  unfold replyIds; split <;> simp [Hdrs.keys, op_ne_cid]

/-- Response headers a handler may set: any, except the reserved `_opid` (and `_cid`, which
the handler context already carries as the echo). -/
def RespOK (R : Hdrs) : Prop := opIdHeader ∉ R.keys ∧ cidHeader ∉ R.keys

/-- **The response carries the request's op id and correlation id.** Whatever (non-reserved)
headers `R` the handler adds, and in whatever order the response map is written, the reply
header decodes — from a stream or from a frame — to a map whose `_opid` is the REQUEST's op id
and whose `_cid` is the correlation id (absent exactly when the correlation id is empty). -/
theorem c09_reply_ids (U : Hdrs) (cid : Bytes) (opid : Nat) (ms : Int) (ctr : Nat) (w : Hdrs) (p : Bytes)
    (hU : UserOK U) (hw : w.Perm (callerCtx cid opid U ms).req) (hs : Small w)
    (R : Hdrs) (hR : RespOK R) (w' : Hdrs) (p' : Bytes) :
    ∃ sctx, readRequestHeader (marshal w ++ p) ctr = .ok (sctx, p) ∧
      sctx.resp.get? opIdHeader = (callerCtx cid opid U ms).req.get? opIdHeader ∧
      (w'.Perm (sctx.addResponseHeaders R).resp → Small w' →
        unmarshalStream (marshal w' ++ p') = .ok (w', p') ∧ headersFromFrame (marshal w' ++ p') = .ok w' ∧
        w'.get? opIdHeader = some (natDigits opid) ∧
        w'.get? cidHeader = (if cid = [] then none else some cid)) := by
  refine ⟨_, c09_server_context U cid opid ms ctr w p hU hw hs, ?_, ?_⟩
  · exact (replyIds_get?_opid ..).trans (caller_get? cid opid U ms hU).1.symm
  · intro hw' hs'
    have hndw' := reply_nodup (natDigits opid) cid R w' hw'
    refine ⟨c04_stream_roundtrip w' p' hndw' hs', c04_frame_roundtrip w' p' hndw' hs', ?_, ?_⟩
    · rw [Hdrs.get?_perm w' _ hw' hndw']
      exact (Hdrs.get?_setAll_not_mem R opIdHeader hR.1 _).trans (replyIds_get?_opid ..)
    · rw [Hdrs.get?_perm w' _ hw' hndw']
      exact (Hdrs.get?_setAll_not_mem R cidHeader hR.2 _).trans (replyIds_get?_cid ..)

/-- **Every response header the handler sets is visible on the caller's context when the call
returns.** `R` is the list of `AddResponseHeader` calls of the handler (any names and values; a
name set twice keeps the last value). For every name other than the reserved `_opid`, what the
handler's response map holds is what the caller's `ResponseHeaders()` holds after
`ReadResponseHeader`; in particular every pair of `R` (distinct names) is there; the caller's own
`_opid` response header (present on a propagated context) is never overwritten; its request
headers are untouched and the payload after the header is left on the transport. -/
theorem c09_response_seen (U : Hdrs) (cid : Bytes) (opid : Nat) (ms : Int) (ctr : Nat) (w : Hdrs) (p : Bytes)
    (hU : UserOK U) (hw : w.Perm (callerCtx cid opid U ms).req) (hs : Small w)
    (R : Hdrs) (w' : Hdrs) (p' : Bytes) (prior : Hdrs) :
    ∃ sctx, readRequestHeader (marshal w ++ p) ctr = .ok (sctx, p) ∧
      (w'.Perm (sctx.addResponseHeaders R).resp → Small w' →
        ∃ cc', readResponseHeader { callerCtx cid opid U ms with resp := prior } (marshal w' ++ p') = .ok (cc', p') ∧
          (∀ k v, k ≠ opIdHeader → (sctx.addResponseHeaders R).resp.get? k = some v → cc'.resp.get? k = some v) ∧
          (R.keys.Nodup → ∀ k v, (k, v) ∈ R → k ≠ opIdHeader → cc'.resp.get? k = some v) ∧
          (cid ≠ [] → cidHeader ∉ R.keys → cc'.resp.get? cidHeader = some cid) ∧
          cc'.resp.get? opIdHeader = prior.get? opIdHeader ∧
          cc'.req = (callerCtx cid opid U ms).req) := by
  refine ⟨_, c09_server_context U cid opid ms ctr w p hU hw hs, ?_⟩
  intro hw' hs'
  have hndw' := reply_nodup (natDigits opid) cid R w' hw'
  have hm := mergeResponse_get? { callerCtx cid opid U ms with resp := prior } w' hndw'
  have seen : ∀ k v, k ≠ opIdHeader → Hdrs.get? (Hdrs.setAll (replyIds (natDigits opid) cid) R) k = some v →
      (mergeResponse { callerCtx cid opid U ms with resp := prior } w').resp.get? k = some v := by
    intro k v hk hg
    rw [hm, if_neg (Ne.symm hk), Hdrs.get?_perm w' _ hw' hndw']
    show (Hdrs.get? (Hdrs.setAll (replyIds (natDigits opid) cid) R) k).or _ = _
    rw [hg]; rfl
  refine ⟨_, readResponseHeader_ok _ _ p' w' (c04_stream_roundtrip w' p' hndw' hs'), seen, ?_, ?_, ?_, rfl⟩
  · intro hRnd k v hkv hk
    exact seen k v hk (Hdrs.get?_setAll_mem R k v hRnd hkv _)
  · intro hc hcR
    refine seen cidHeader cid (Ne.symm op_ne_cid) ?_
    rw [Hdrs.get?_setAll_not_mem R cidHeader hcR, replyIds_get?_cid, if_neg hc]
  · rw [hm, if_pos rfl]

/-- **An onward call never removes a response header the handler set.** `wireReply cc s` is what
`FStandardClient.Call(cc, …)` does to the calling context `cc` when the downstream handler's context
is `s` (WriteResponseHeader(s) → bytes → ReadResponseHeader(cc)); `cc` is the handler's INBOUND
context when the handler makes the onward call with it. The call leaves the request headers alone,
every response header present before is present afterwards, and it keeps its value unless the
downstream reply carries the same name (`_opid` is never taken from the reply). -/
theorem c09_onward_call_keeps_own_response_headers (cc s cc' : Ctx) (rest : Bytes)
    (h : wireReply cc s = .ok (cc', rest)) :
    cc'.req = cc.req ∧
    (∀ k v, cc.resp.get? k = some v → ∃ v', cc'.resp.get? k = some v') ∧
    (∃ d, unmarshalStream (marshal s.resp) = .ok (d, rest) ∧
      ∀ k v, cc.resp.get? k = some v → (k = opIdHeader ∨ k ∉ d.keys) → cc'.resp.get? k = some v) := by
  obtain ⟨d, hu, rfl⟩ := readResponseHeader_eq_ok cc _ cc' rest h
  refine ⟨rfl, ?_, d, hu, ?_⟩
  · intro k v hk
    exact Option.isSome_iff_exists.mp (Hdrs.get?_setAll_isSome (d.without opIdHeader) cc.resp k (by rw [hk]; rfl))
  · intro k v hk hor
    have hn : k ∉ (d.without opIdHeader).keys := by
      rcases hor with e | hnd
      · subst e; exact Hdrs.not_mem_without d opIdHeader
      · exact fun hm => hnd ((Hdrs.without_keys_sublist d opIdHeader).subset hm)
    exact (Hdrs.get?_setAll_not_mem _ k hn cc.resp).trans hk

/-- **Whatever a handler does after setting a response header — more headers, request headers,
any number of onward calls with its inbound context or with clones, to any depth — the header is
still on its context when it returns** (so by `c09_response_seen` its caller sees it; the value is
the last one written for that name by the handler or merged from a reply). Stated for every script
and every context: response headers present before a script are present after it, in particular
the one just set by `AddResponseHeader`. -/
theorem c09_script_keeps_response_headers (acts : List HAct) (c c' : Ctx) (ctr ctr' : Nat) (tr : List Hdrs) :
    (runActs acts c ctr = .ok (c', ctr', tr) → ∀ k v, c.resp.get? k = some v → ∃ v', c'.resp.get? k = some v') ∧
    (∀ k v, runActs (.setResp k v :: acts) c ctr = .ok (c', ctr', tr) → ∃ v', c'.resp.get? k = some v') := by
  have key : ∀ (acts : List HAct) (c : Ctx), runActs acts c ctr = .ok (c', ctr', tr) →
      ∀ k v, c.resp.get? k = some v → ∃ v', c'.resp.get? k = some v' := by
    intro acts c h k v hk
    refine Option.isSome_iff_exists.mp (runActsW_keeps wireRequest wireReply ?_ acts c ctr c' ctr' tr h k (by rw [hk]; rfl))
    intro cc s cc' rest hr k hk
    obtain ⟨d, _, rfl⟩ := readResponseHeader_eq_ok cc _ cc' rest hr
    exact Hdrs.get?_setAll_isSome _ _ k hk
  exact ⟨key acts c, fun k v h => key acts _ (by rwa [runActs, runActsW] at h) k v (Hdrs.get?_set_same c.resp k v)⟩

/-- **The timeout codec**: the `_timeout` header written for `ms` milliseconds (any int64)
parses back to `ms`; `SetTimeout(ms·1ms)` followed by `Timeout()` is the identity on whole
non-negative milliseconds; a missing header, an empty value, or a value containing a byte that
is neither a decimal digit nor a sign gives the default 5 s. -/
theorem c09_timeout_codec :
    (∀ ms : Int, -9223372036854775808 ≤ ms → ms < 9223372036854775808 → decodeTimeoutMs (formatInt ms) = some ms) ∧
    (∀ (c : Ctx) (ms : Int), WholeMs ms → (c.setTimeout (ms * 1000000)).timeout = ms * 1000000) ∧
    (∀ c : Ctx, c.req.get? timeoutHeader = none → c.timeout = 5000000000) ∧
    (∀ (c : Ctx) (v : Bytes) (x : UInt8), c.req.get? timeoutHeader = some v → x ∈ v →
      ¬ (48 ≤ x.toNat ∧ x.toNat ≤ 57) → x ≠ 43 → x ≠ 45 → c.timeout = 5000000000) := by
  refine ⟨fun ms h0 h1 => parseI64_formatInt ms h0 h1, ?_, ?_, ?_⟩
  · intro c ms hms
    simp only [Ctx.setTimeout, Ctx.addRequestHeader, Ctx.timeout, Hdrs.get?_set_same, Option.getD_some, encodeTimeout_whole]
    exact decodeTimeout_formatInt ms (by have := hms.1; omega) hms.2
  · intro c h
    simp [Ctx.timeout, h, decodeTimeout, decodeTimeoutMs, parseI64, defaultTimeoutNs]
  · intro c v x h hx hnd h43 h45
    simp [Ctx.timeout, h, decodeTimeout, decodeTimeoutMs, parseI64_nonnumeric v x hx hnd h43 h45, defaultTimeoutNs]

/-- **A request without `_opid` is rejected** with INVALID_DATA and consumes no op id (for every
written header map with distinct names that lacks the name). -/
theorem c09_missing_opid (h : Hdrs) (p : Bytes) (ctr : Nat) (hnd : h.keys.Nodup) (hs : Small h)
    (hno : opIdHeader ∉ h.keys) :
    readRequestHeader (marshal h ++ p) ctr = .err .invalidData ∧ ctrAfterRead (marshal h ++ p) ctr = ctr := by
  have : readRequestHeader (marshal h ++ p) ctr = .err .invalidData :=
    readRequestHeader_err _ p h ctr _ (c04_stream_roundtrip h p hnd hs)
      (serverCtx_missing h _ (Hdrs.get?_none_of_not_mem h opIdHeader hno))
  exact ⟨this, ctrAfterRead_err _ ctr _ this⟩

/-! Non-vacuity: a concrete call meets every hypothesis (two user headers, a non-empty
correlation id, a 1500 ms timeout, the wire order = the insertion order). -/
example : UserOK [([102, 111, 111], [98, 97, 114]), ([120], [])] := by
  refine ⟨by decide, by decide, by decide, by decide⟩

example : WholeMs 1500 ∧ WholeMs 0 ∧ WholeMs 9223372036854 := by unfold WholeMs; omega

example : RespOK [([114], [49])] := ⟨by decide, by decide⟩

example : ∃ w, w.Perm (callerCtx [99] 7 [([102, 111, 111], [98, 97, 114]), ([120], [])] 1500).req ∧ Small w := by
  refine ⟨_, List.Perm.refl _, ?_⟩
  rw [callerCtx_req _ _ _ _ ⟨by decide, by decide, by decide, by decide⟩]
  have e1 : natDigits 7 = [55] := by simp [natDigits, natDigitsAux]
  have e2 : formatInt 1500 = [49, 53, 48, 48] := by
    simp [formatInt, natDigits, natDigitsAux]
  rw [e1, e2]
  unfold Small
  decide

end FV.C09
