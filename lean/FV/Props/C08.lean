/-
C08 — Publisher and subscriber agree on the topic, in every target language.

  "For every scope, operation, prefix (static tokens and variables), variable values and
  topic delimiter option, the topic a generated publisher publishes on equals the topic
  the generated subscriber of the same operation subscribes to, consists of the prefix
  with its variables substituted, the scope name and the operation name joined by the
  topic delimiter, and is the same string in the Go, Java, Dart and Python outputs."

Model: FV/Model/Topic.lean (`tmpl`, `eval`, `spec`).  The topic adopted as the spec is

    [ <prefix tokens, variables substituted, joined by "." as written> <delim> ] <Scope> <delim> <op>

(no leading delimiter without a prefix; "." inside the prefix is IDL syntax and is not
replaced by `-delim`: all four generators paste the prefix string as written; the scope name
is capitalised, which three of four generators do and which changes nothing when the name is
capitalised already).

The statements quantify over ALL scopes (names, token lists of any length), operations,
variable values and delimiters.  Three classes are recorded findings of the real generators
(KNOWN_FINDINGS.txt), appear below as hypotheses of the `…_partial` theorems and have a
`…_counterexample` each:
  * `isTitled sc.name` for Python (Python pastes the scope name as written),
  * `safeTokens l sc` (inside `SafeScope`, with a plain delimiter): static prefix tokens are
    pasted into format strings / string literals. The class is EXACT per language and per
    "has variables" (`hazard`): Go/Java `"` `\` always and `%` only with variables; Python `'` `\`
    always and `{` `}` only with variables; Dart `'` `\` `$` always and `%` only with variables;
    everything else — e.g. `%` in a variable-free prefix — is covered by the theorems
    (`c08_novar_prefix_verbatim_partial`, `c08_percent_without_variables`). `PlainScope`
    (`plainTokens`: none of these characters) implies `SafeScope l` for every `l`,
  * `dartSafe sc.pfx delim` for Dart: `$user` followed by a delimiter such as "__" is read by
    Dart as the identifier `user__`.
`c08_go_delim_unfixed_counterexample` keeps the witness of the defect repaired in the Go
generator (literal "." between scope and operation).
-/
import FV.Model.Topic
import FV.Proofs.Topic

namespace FV.C08
open FV FV.Topic

/-- Publisher topic = subscriber topic: every language, scope (any prefix, plain or not),
operation, variable values and delimiter — no hypothesis. -/
theorem c08_pub_eq_sub (l : Lang) (sc : Scope) (vals : List Str) (delim op : Str) :
    evalTopic l .pub sc vals delim op = evalTopic l .sub sc vals delim op := by
  simp only [evalTopic, tmpl, subTopic_eq]

/-- The templates themselves coincide (not only their values). -/
theorem c08_pub_tmpl_eq_sub_tmpl (l : Lang) (sc : Scope) (delim : Str) :
    tmpl l .pub sc delim = tmpl l .sub sc delim := by
  simp only [tmpl, subTopic_eq]

/-- The variables the compiler extracts from the prefix STRING with the regular expression
`{\w*}` are exactly the `{…}` tokens made of word characters, in order; the identifier check
then accepts or rejects that list. -/
theorem c08_prefix_vars (ts : List Tok) (h : ∀ t ∈ ts, t.wf = true) :
    scanVars (prefixString ts) = ts.filterMap Tok.varName ∧
    extractVars (prefixString ts) =
      (if (ts.filterMap Tok.varName).all identOk then some (ts.filterMap Tok.varName) else none) := by
  have := scanVars_prefixString ts h
  simp only [varNames] at this
  exact ⟨this, by simp only [extractVars, this]⟩

/-- `ScopePrefix.Template(repl)` replaces exactly those tokens and nothing else. -/
theorem c08_prefix_template (repl : Str) (ts : List Tok) (h : ∀ t ∈ ts, t.wf = true) :
    templateStr repl (prefixString ts) = render repl ts :=
  templateStr_prefixString repl ts h

/-- The side conditions on a language: the recorded findings. -/
def LangOk (l : Lang) (sc : Scope) (delim : Str) : Prop :=
  (l.isPython = true → isTitled sc.name = true) ∧
  (l = .dart → dartSafe sc.pfx delim = true ∧ sc.vars.Nodup ∧ sc.vars.all identOk = true)

/-- The topic of every language with the scope name as that language writes it (Python as written, the
others capitalised): what the `…_partial` theorems below specialise. PARTIAL: `SafeScope`, the Dart side
conditions. -/
theorem c08_topic_eval_partial (l : Lang) (r : Role) (sc : Scope) (vals : List Str) (delim op : Str)
    (h : SafeScope l sc delim)
    (hd : l = .dart → dartSafe sc.pfx delim = true ∧ sc.vars.Nodup ∧ sc.vars.all identOk = true) :
    evalTopic l r sc vals delim op =
      some (specWith (if l.isPython then sc.name else title sc.name) sc vals delim op) := by
  have ht : eval ⟨vals, delim, op, sc.name⟩ (pubTopic l delim) =
      some ((if l.isPython then sc.name else title sc.name) ++ (delim ++ op)) := by
    cases l <;> simp [pubTopic, eval, evalSeg, Lang.isPython]
  unfold evalTopic tmpl
  rw [eval_append, prefixTmpl_eval l _ sc delim h hd, Option.bind_some]
  cases r <;> simp only [subTopic_eq, ht] <;> simp [specWith, prefixVal]

/-- Every language's topic is the spec string.  PARTIAL: hypotheses = the complements of the
three recorded findings (plain static tokens and delimiter; for Python a capitalised scope
name; for Dart no variable glued to an identifier-like delimiter, distinct variable names that
passed the parser's identifier check). -/
theorem c08_matches_spec_partial (l : Lang) (r : Role) (sc : Scope) (vals : List Str) (delim op : Str)
    (h : SafeScope l sc delim) (hl : LangOk l sc delim) :
    evalTopic l r sc vals delim op = some (spec sc vals delim op) := by
  rw [c08_topic_eval_partial l r sc vals delim op h hl.2]
  cases hp : l.isPython with
  | false => rfl
  | true =>
    have := hl.1 hp
    simp only [isTitled, beq_iff_eq] at this
    simp [spec, this]

/-- All languages (and both roles) give the same string.  PARTIAL: same hypotheses. -/
theorem c08_languages_agree_partial (l₁ l₂ : Lang) (r₁ r₂ : Role) (sc : Scope) (vals : List Str)
    (delim op : Str) (s₁ : SafeScope l₁ sc delim) (s₂ : SafeScope l₂ sc delim)
    (h₁ : LangOk l₁ sc delim) (h₂ : LangOk l₂ sc delim) :
    evalTopic l₁ r₁ sc vals delim op = evalTopic l₂ r₂ sc vals delim op := by
  rw [c08_matches_spec_partial l₁ r₁ sc vals delim op s₁ h₁, c08_matches_spec_partial l₂ r₂ sc vals delim op s₂ h₂]

/-- Go, Java and Dart agree with each other and with the spec whatever the capitalisation of
the scope name. PARTIAL: plain tokens / delimiter, the Dart side condition. -/
theorem c08_go_java_dart_agree_partial (sc : Scope) (vals : List Str) (delim op : Str) (r : Role)
    (hg : SafeScope .go sc delim) (hj : SafeScope .java sc delim) (hs : SafeScope .dart sc delim)
    (hd : dartSafe sc.pfx delim = true ∧ sc.vars.Nodup ∧ sc.vars.all identOk = true) :
    evalTopic .go r sc vals delim op = some (spec sc vals delim op) ∧
    evalTopic .java r sc vals delim op = some (spec sc vals delim op) ∧
    evalTopic .dart r sc vals delim op = some (spec sc vals delim op) := by
  refine ⟨?_, ?_, ?_⟩
  · exact c08_matches_spec_partial .go r sc vals delim op hg ⟨by simp [Lang.isPython], by simp⟩
  · exact c08_matches_spec_partial .java r sc vals delim op hj ⟨by simp [Lang.isPython], by simp⟩
  · exact c08_matches_spec_partial .dart r sc vals delim op hs ⟨by simp [Lang.isPython], fun _ => hd⟩

/-- Python (vanilla, asyncio, tornado) always produces the as-written reading of the spec:
prefix and delimiters are right, only the capitalisation differs.  PARTIAL: plain tokens. -/
theorem c08_python_matches_raw_partial (l : Lang) (hl : l.isPython = true) (r : Role) (sc : Scope)
    (vals : List Str) (delim op : Str) (h : SafeScope l sc delim) :
    evalTopic l r sc vals delim op = some (specRaw sc vals delim op) := by
  rw [c08_topic_eval_partial l r sc vals delim op h (by cases l <;> simp [Lang.isPython] at hl <;> simp)]
  simp [hl, specRaw]

def opEC : Str := ['E','v','e','n','t','C','r','e','a','t','e','d']

/-- The language-independent hypothesis (no format / quoting character in any static token)
implies the exact per-language one. -/
theorem c08_plain_is_safe (sc : Scope) (delim : Str) (h : PlainScope sc delim) (l : Lang) :
    SafeScope l sc delim :=
  ⟨h.wf, tokensOk_mono plainChar _ (plain_safe l _) sc.pfx h.plain, h.pdelim⟩

/-- A prefix WITHOUT variables is pasted as it is written, in every language: the topic is the
prefix string, the delimiter, the scope name, the delimiter, the operation. The only characters
that matter on this path are the quote of the target's string literal and the backslash (and `$`
for Dart) — in particular `%`, `{`, `}` are plain text (the seeded change C08-m6 breaks exactly
this for Dart). PARTIAL: `SafeScope` = the exact class of the recorded finding; Python as written. -/
theorem c08_novar_prefix_verbatim_partial (l : Lang) (r : Role) (sc : Scope) (vals : List Str)
    (delim op : Str) (h : SafeScope l sc delim) (hv : sc.vars = []) :
    evalTopic l r sc vals delim op =
      some ((if sc.pfx = [] then [] else sc.pfxStr ++ delim) ++
            ((if l.isPython then sc.name else title sc.name) ++ (delim ++ op))) := by
  have hall := novars_all sc.pfx (h.split.vars ▸ hv)
  rw [c08_topic_eval_partial l r sc vals delim op h fun _ =>
    ⟨by simp [dartSafe, lastIsVar_novars sc.pfx hall], by simp [hv], by simp [hv]⟩]
  simp only [specWith, novars_prefix vals sc.pfx hall, Scope.pfxStr]

/-- the witness of the seeded change C08-m6: `scope Events prefix load%50.stats` -/
def pctScope : Scope := ⟨['E','v','e','n','t','s'], [.word ['l','o','a','d','%','5','0'], .word ['s','t','a','t','s']]⟩

/-- `%` in a static token of a variable-free prefix is NOT in the finding's class: every language
(Dart included) gives `load%50.stats.Events.EventCreated`, although `plainTokens` fails. -/
theorem c08_percent_without_variables :
    plainTokens pctScope.pfx = false ∧ (∀ l, SafeScope l pctScope ['.']) ∧
    ∀ l r, evalTopic l r pctScope [] ['.'] opEC =
      some (['l','o','a','d','%','5','0','.','s','t','a','t','s','.','E','v','e','n','t','s','.'] ++ opEC) := by
  have hs : ∀ l, SafeScope l pctScope ['.'] := fun l =>
    ⟨by decide, by cases l <;> decide, by decide⟩
  refine ⟨by decide, hs, fun l r => ?_⟩
  rw [c08_novar_prefix_verbatim_partial l r pctScope [] ['.'] opEC (hs l) (by decide)]
  -- the scope name is capitalised already, so both readings of it give the same string
  generalize l.isPython = b
  cases b <;> decide

/-- Forwarding is the identity: for every entry point of every language (Go `Publish<Op>`,
`Subscribe<Op>`, `Subscribe<Op>Errorable`; Java `publish<Op>`, `subscribe<Op>`,
`subscribe<Op>Throwable`; Dart, Python publish / subscribe) the values that reach the format
arguments of the prefix expression are the arguments of the call, in order. Hypotheses: the
variable names are distinct (otherwise the emitted Go does not even compile) and one argument
per variable. -/
theorem c08_forwarding_identity (l : Lang) (e : Entry) (sc : Scope) (args : List Str)
    (hnd : sc.vars.Nodup) (hl : args.length = sc.vars.length) :
    reachVals l e sc.vars args = args :=
  reachVals_identity l e sc.vars args hnd hl

/-- Conversely (the reason the harness calls every entry point with pairwise different values): a
forwarding call that lists the declared names in any other way — permuted, one repeated, one
replaced by another — hands the callee a different value list. -/
theorem c08_forwarding_change_detected (vars vals fwd : List Str) (hnd : vars.Nodup) (hv : vals.Nodup)
    (hl : vals.length = vars.length) (hf : fwd.length = vars.length) (hmem : ∀ n ∈ fwd, n ∈ vars)
    (hne : fwd ≠ vars) : runChain [⟨vars, fwd⟩] vals ≠ vals := by
  intro h
  exact hne (forwarding_detected vars vals fwd hnd hv hl hf hmem (by simpa [runChain] using h))

/-- Entry points of one language agree: publisher entry = every subscriber entry. -/
theorem c08_entry_pub_eq_sub (l : Lang) (e : Entry) (sc : Scope) (args : List Str) (delim op : Str)
    (hnd : sc.vars.Nodup) (hl : args.length = sc.vars.length) :
    entryTopic l .pub sc args delim op = entryTopic l e sc args delim op := by
  unfold entryTopic
  rw [reachVals_identity l .pub sc.vars args hnd hl, reachVals_identity l e sc.vars args hnd hl]
  have := c08_pub_tmpl_eq_sub_tmpl l sc delim
  cases e <;> simp [Entry.role, this]

/-- topic(entry point, args) = spec(args) for every entry point of every language. PARTIAL: the
hypotheses of `c08_matches_spec_partial` (recorded findings) plus distinct variable names. -/
theorem c08_entry_matches_spec_partial (l : Lang) (e : Entry) (sc : Scope) (args : List Str)
    (delim op : Str) (h : SafeScope l sc delim) (hl : LangOk l sc delim)
    (hnd : sc.vars.Nodup) (hlen : args.length = sc.vars.length) :
    entryTopic l e sc args delim op = some (spec sc args delim op) := by
  unfold entryTopic
  rw [reachVals_identity l e sc.vars args hnd hlen]
  exact c08_matches_spec_partial l e.role sc args delim op h hl

/-- the seeded change C08-m3 in model terms: Go `Subscribe<Op>` forwarding `tenant, region` -/
theorem c08_forwarding_swap_counterexample :
    runChain [⟨[['r'], ['t']], [['t'], ['r']]⟩] [['e','m','e','a'], ['a','c','m','e']]
      = [['a','c','m','e'], ['e','m','e','a']] := by decide

def evScope : Scope := ⟨['e','v','e','n','t','s'], []⟩

/-- known/c08_python_scope_title.frugal: `scope events`: Python `events.EventCreated`,
Go `Events.EventCreated`. -/
theorem c08_python_title_counterexample :
    evalTopic .pyTornado .pub evScope [] ['.'] opEC ≠ evalTopic .go .pub evScope [] ['.'] opEC ∧
    evalTopic .pyTornado .pub evScope [] ['.'] opEC = some (['e','v','e','n','t','s','.'] ++ opEC) ∧
    evalTopic .go .pub evScope [] ['.'] opEC = some (['E','v','e','n','t','s','.'] ++ opEC) := by
  decide

def fmtScope : Scope := ⟨['E','v','e','n','t','s'], [.word ['a','%','d'], .braced ['u','s','e','r']]⟩
def bill : Str := ['b','i','l','l']

/-- known/c08_prefix_format_chars.frugal: `prefix a%d.{user}`: no target reads the pasted
prefix as text and one variable, although the tokens are grammatical. -/
theorem c08_format_chars_counterexample :
    (∀ t ∈ fmtScope.pfx, t.wf = true) ∧ plainTokens fmtScope.pfx = false ∧
    safeTokens .go fmtScope = false ∧ safeTokens .java fmtScope = false ∧ safeTokens .dart fmtScope = false ∧
    -- … and Python, whose format uses braces, is outside the class and right:
    safeTokens .pyTornado fmtScope = true ∧
    evalTopic .pyTornado .pub fmtScope [bill] ['.'] opEC = some (spec fmtScope [bill] ['.'] opEC) ∧
    evalTopic .go .pub fmtScope [bill] ['.'] opEC = none ∧
    evalTopic .java .sub fmtScope [bill] ['.'] opEC = none ∧
    evalTopic .dart .pub fmtScope [bill] ['.'] opEC = none ∧
    tmpl .go .pub fmtScope ['.'] =
      [.lit ['a'], .bad, .lit ['.'], .var 1, .lit ['.'], .scopeName true, .lit ['.'], .op] := by
  decide +kernel

def glueScope : Scope := ⟨['E','v','e','n','t','s'], [.word ['f','o','o'], .braced ['u','s','e','r']]⟩

/-- known/c08_dart_variable_glued.frugal: `prefix foo.{user}` with `-delim __`: Dart reads
`'foo.$user__'` as the undefined identifier `user__`; Go is fine. -/
theorem c08_dart_glue_counterexample :
    PlainScope glueScope ['_','_'] ∧ dartSafe glueScope.pfx ['_','_'] = false ∧
    evalTopic .dart .pub glueScope [bill] ['_','_'] opEC = none ∧
    evalTopic .go .pub glueScope [bill] ['_','_'] opEC = some (spec glueScope [bill] ['_','_'] opEC) := by
  refine ⟨⟨by decide, by decide, by decide⟩, by decide, by decide, by decide⟩

/-- The defect repaired in the Go generator: with the literal "." the Go topic for `-delim /`
was `Events.EventCreated`, the spec (and Java, Dart) `Events/EventCreated`. -/
theorem c08_go_delim_unfixed_counterexample :
    eval ⟨[], ['/'], opEC, ['E','v','e','n','t','s']⟩ (tmplGoUnfixed ⟨['E','v','e','n','t','s'], []⟩ ['/'])
      ≠ some (spec ⟨['E','v','e','n','t','s'], []⟩ [] ['/'] opEC) ∧
    evalTopic .go .pub ⟨['E','v','e','n','t','s'], []⟩ [] ['/'] opEC
      = some (spec ⟨['E','v','e','n','t','s'], []⟩ [] ['/'] opEC) := by
  decide

/-! ### Non-vacuity: the hypotheses hold of non-trivial scopes; the README's examples -/

def readme : Scope := ⟨['E','v','e','n','t','s'], [.word ['f','o','o'], .braced ['u','s','e','r']]⟩

example : PlainScope readme ['.'] ∧ LangOk .dart readme ['.'] ∧ LangOk .pyAsyncio readme ['.'] :=
  ⟨⟨by decide, by decide, by decide⟩, ⟨by decide, fun _ => ⟨by decide, by decide, by decide⟩⟩,
   ⟨by decide, by decide⟩⟩

/-- README: `scope Events prefix foo.{user}` with user = "bill" → `foo.bill.Events.EventCreated`. -/
example : spec readme [bill] ['.'] opEC =
    ['f','o','o','.','b','i','l','l','.','E','v','e','n','t','s','.'] ++ opEC := by decide

/-- README: no prefix → `<scope>.<operation>`, no leading delimiter. -/
example : spec ⟨['E','v','e','n','t','s'], []⟩ [] ['.'] opEC = ['E','v','e','n','t','s','.'] ++ opEC := by decide

/-- a three-token prefix with two variables, delimiter "/" : the hypotheses are satisfiable and
the theorem's conclusion is the expected concrete string in every language -/
def big : Scope := ⟨['S','t'], [.braced ['a','b'], .word ['x','-','1'], .braced ['c','d','_','e']]⟩
example : PlainScope big ['/'] ∧ LangOk .dart big ['/'] := 
  ⟨⟨by decide, by decide, by decide⟩, ⟨by decide, fun _ => ⟨by decide, by decide, by decide⟩⟩⟩
example : evalTopic .dart .sub big [['1'], ['2']] ['/'] ['o'] = some ['1','.','x','-','1','.','2','/','S','t','/','o'] := by
  decide
example : c08_prefix_vars big.pfx (by decide) = c08_prefix_vars big.pfx (by decide) := rfl
example : scanVars (prefixString big.pfx) = [['a','b'], ['c','d','_','e']] := by decide
example : big.vars.Nodup ∧ entryTopic .go .sub big [['1'], ['2']] ['/'] ['o'] = some (spec big [['1'], ['2']] ['/'] ['o']) := by
  refine ⟨by decide, by decide⟩

end FV.C08
