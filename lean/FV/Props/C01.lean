/-
C01 — Under multiplexing every RPC gets exactly its own response.

  "When any number of requests with distinct FContexts are in flight
  concurrently on one client transport, a request completes successfully only
  with the response frame whose op id equals the op id it sent, never with a
  response meant for another request, in whatever order, however late and however
  many times the responses arrive. Responses for unknown, already completed or
  timed-out requests are discarded and change the outcome of no other request."

Quantifiers: `os` = the op ids of any number of callers; `as` = any list of
actions (any interleaving of caller, reader and timeout steps; the reader's
`readerLookup f` takes an ARBITRARY frame `f`: any op id — issued, never issued,
duplicate, late — any payload). `Reachable cap b os s` = some action list leads
from the initial state to `s`. Distinctness of op ids (`os.Nodup`) is the
property's "distinct FContexts"; it is discharged by C17 (`c17_unique`).
-/
import FV.Model.Registry
import FV.Proofs.Registry
import FV.Proofs.LockFacts

namespace FV.C01
open FV.Reg

/-- A request completes successfully only with a frame carrying its own op id. -/
theorem c01_own_response (cap : Nat) (b : Bool) (os : List OpId) (s : Sys) (hr : Reachable cap b os s)
    (i : Nat) (c : Caller) (f : Frame) (hc : s.callers[i]? = some c) (hd : c.pc = .done (.ok f)) :
    f.opid = c.opid :=
  ((reachable_rinv hr).callers i c hc).got f (Or.inr hd)

/-- Stronger: every frame sitting in a caller's result channel is its own. -/
theorem c01_channel_holds_own_frames (cap : Nat) (b : Bool) (os : List OpId) (s : Sys)
    (hr : Reachable cap b os s) (i : Nat) (c : Caller) (hc : s.callers[i]? = some c) :
    ∀ f ∈ c.buf, f.opid = c.opid :=
  ((reachable_rinv hr).callers i c hc).buf

/-- A frame whose op id is not registered (never issued, or no longer in flight) is
discarded: the whole state is unchanged. -/
theorem c01_discard_inert (s : Sys) (f : Frame) (hidle : s.reader = .idle)
    (hun : lookup s.registry f.opid = none) : step s (.readerLookup f) = some s := by
  simp [step, hidle, hun]

/-- Responses for a completed or timed-out request are exactly such frames: once a caller
has returned, its op id is not registered (distinct op ids). -/
theorem c01_late_response_unregistered (cap : Nat) (b : Bool) (os : List OpId) (hnd : os.Nodup) (s : Sys)
    (hr : Reachable cap b os s) (i : Nat) (c : Caller) (o : Outcome)
    (hc : s.callers[i]? = some c) (hd : c.pc = .done o) : lookup s.registry c.opid = none := by
  cases hl : lookup s.registry c.opid with
  | none => rfl
  | some j => exact absurd (lookup_some hl) (done_not_registered hnd hr hc hd j)

/-- Which caller an action can touch. -/
def touches (s : Sys) : Action → Nat → Prop
  | .register i, j | .recv i, j | .timeout i, j | .sendError i, j | .unregister i, j => i = j
  | .readerLookup _, _ => False
  | .readerSend, j => ∃ f, s.reader = .lookedUp j f

/-- Frame rule (non-interference): an action that does not touch caller `j` leaves caller
`j` — its program counter, its outcome, its channel — exactly as it was. In particular the
reader delivering or discarding a frame for ANOTHER op id changes nothing for `j`. -/
theorem c01_frame_rule (s s' : Sys) (a : Action) (j : Nat) (hs : step s a = some s')
    (hnt : ¬ touches s a j) : s'.callers[j]? = s.callers[j]? := by
  cases step_sound hs with
  | lookupHit _ _ | lookupMiss _ _ | drop _ _ _ _ => rfl
  | send hr _ _ => exact get_upd_other _ _ j _ fun e => hnt ⟨_, e ▸ hr⟩
  | regErr _ _ _ | register _ _ _ | recv _ _ _ | timeout _ _ | sendError _ _ | unregister _ _ =>
    exact get_upd_other _ _ j _ hnt

/-- The reader delivers a frame only to the caller registered under the frame's op id:
with a looked-up frame for caller `ch`, `ch`'s op id is the frame's. -/
theorem c01_delivery_target (cap : Nat) (b : Bool) (os : List OpId) (s : Sys) (hr : Reachable cap b os s)
    (ch : Nat) (f : Frame) (hrd : s.reader = .lookedUp ch f) :
    ∃ c, s.callers[ch]? = some c ∧ c.opid = f.opid :=
  (reachable_rinv hr).rdr ch f hrd

/-- When every request has returned, no registration is left behind. -/
theorem c01_registry_drains (cap : Nat) (b : Bool) (os : List OpId) (s : Sys) (hr : Reachable cap b os s)
    (hall : ∀ (i : Nat) (c : Caller), s.callers[i]? = some c → ∃ o, c.pc = .done o) : s.registry = [] := by
  cases hreg : s.registry with
  | nil => rfl
  | cons e t =>
    obtain ⟨c, hc, _, ha⟩ := (reachable_rinv hr).reg e.1 e.2 (by rw [hreg]; exact List.mem_cons_self)
    obtain ⟨o, hd⟩ := hall e.2 c hc
    exact absurd (hd ▸ ha) (not_active_done o)

/-! Non-vacuity: a concrete interleaving with a duplicate, a foreign and a late frame. -/
example : ∃ s, run (init 1 false [10, 11])
    [.register 0, .register 1, .readerLookup ⟨11, 5⟩, .readerSend, .readerLookup ⟨11, 6⟩, .readerSend,
     .readerLookup ⟨99, 7⟩, .recv 1, .unregister 1, .readerLookup ⟨11, 8⟩, .timeout 0, .unregister 0] = some s
    ∧ s.callers = [⟨10, .done .timedOut, []⟩, ⟨11, .done (.ok ⟨11, 5⟩), []⟩] ∧ s.registry = [] := by
  refine ⟨_, rfl, ?_, ?_⟩ <;> decide

/-- **Lock discipline behind the model's atomic steps** (registry), decided by the kernel on facts
REGENERATED from lib/go's source on every check (harness/locks → FV/Generated/Locks.lean): no function
calls, while it holds one of these mutexes, anything that (transitively) acquires the same mutex, no
lexical re-lock, and every path out of a function releases what the function locked. This is what makes a
critical section ONE step of the model and rules out the self-deadlocks (a second RLock behind a queued
writer, SendError under SendReply's lock) and leaked locks that would wedge every later request. -/
theorem c01_lock_discipline :
    FV.Locks.ok [1] FV.Generated.Locks.mutexTags FV.Generated.Locks.facts = true :=
  FV.Locks.ok_of_closed FV.Generated.Locks.facts_closed (by decide +kernel)

end FV.C01
