/-
C10 — the parser represents every declaration exactly and accepts all Thrift.

  "For every syntactically valid Thrift/Frugal IDL text, parsing succeeds and the resulting model
  contains exactly the declared includes, namespaces, typedefs, enums (with Thrift's implicit
  numbering), constants, structs, unions and exceptions (field ids, requiredness, types, defaults,
  annotations), services (extends, oneway, arguments, throws) and scopes (prefix, variables,
  operations), independent of comment, whitespace and separator style. Rendering a model to text
  and parsing it back yields the same model."

The objects: `FV.Generated.grammar` is `compiler/parser/grammar.peg` translated rule by rule on
every check (harness/pegx), `FV.Peg.parse` is pigeon's matching algorithm with explicit fuel,
`FV.Act` are the semantic actions written by hand from the Go code.  The theorems below are about
the REGENERATED grammar: an edit of grammar.peg re-checks them.

Covered by theorem (for all inputs of the stated shape, each with an explicit fuel bound):
  Letter, Digit, Identifier (`c10_identifier`); IntConstant and its value (`c10_int_literal`);
  the numbering loop of the Enum action (`c10_enum_numbering`);
  FieldType, BaseType, BaseTypeName, ContainerType, MapType, SetType, ListType, CppType (absent), WS,
  TypeAnnotations (absent): `c10_type_roundtrip_partial` — every annotation-free type, arbitrarily nested,
  in every white-space styling of its brackets, by induction over the type
  (`c10_type_roundtrip_canonical`, `c10_type_ws_invisible`);
  Whitespace, EOL, Comment, MultiLineComment, MultiLineCommentNoLineTerminator, SingleLineComment,
  SourceChar, DocString (absent), `_`, `__`: `c10_gap_texts` / `c10_gap_consumed` — every text made of
  white space, newlines, block comments, `//` and `#` comments is consumed exactly by the gap rule;
  `c10_type_comments_invisible` — such a text after a type does not change the value;
  EnumValue, the enum body `(EnumValue __)*` by induction over the list, Enum with the `;` form of EOS:
  `c10_enum_roundtrip` — syntax and Thrift numbering together, doc comments, `= integer`, separators,
  any gap texts; ListSeparator; DocString (present) with its lines (`docLines`);
  Field (doc, id, FieldModifier, type, name, integer default via ConstValue — Literal / BoolConstant /
  DoubleConstant shown to fail on an integer —, separators): `c10_field_roundtrip`;
  FieldList by induction over the list: `c10_fieldlist_roundtrip`;
  StructLike, Struct, Exception, Union (fields forced optional): `c10_struct_roundtrip`;
  Literal: exact consumption for both quote styles (`c10_literal_consumed`), value round trip for the
  double-quoted style with its escapes (`c10_string_literal_partial`, counterexample for the finding);
  include resolution and the parse cache of parser.go (`FV.Inc`): resolution is by cleaned path, same
  base names in different directories are distinct, a path-keyed cache is transparent / order-independent
  (`c10_include_by_path`, `c10_include_same_basename_distinct`, `c10_include_cache_transparent`, counterexample
  for a base-name key); tied by op c10prog over include graphs with per-edge origins;
  the sequence `typ:FieldType _ name:Identifier` of Field / TypeDef / Const (`c10_roundtrip_partial`);
  the interpreter itself (`c10_peg_fuel_monotone`: a result obtained with some fuel is the result
  with any larger fuel, so the fuel is not part of the meaning).
  Reusable combinators for further rules are in Proofs/Peg.lean (`ParsesTo`, `FailsOn`, `SeqRun`,
  `ChoiceRun`, `StarRun`, the accounting of fuel bounds), Proofs/PegGaps.lean (`IsGap`: gaps as abstract
  texts) and Proofs/PegDecls.lean (doc comments, integers, `= value`, item tails, items `(X __)*`, blocks).
  Concrete instances evaluated by the kernel: a nested type with white space in its brackets, the
  keyword-prefix finding (`c10_type_roundtrip_counterexample`), a written enum and a written struct (non-vacuity).
Covered by correspondence only (harness suite c10: original model = real parser = this interpreter
on the regenerated grammar, whole files and fragments, every run): annotations everywhere
(TypeAnnotations/TypeAnnotation present) and comments after a base/container type inside brackets,
the VALUE of single-quoted literals (consumption is proved), DoubleConstant and BoolConstant values, ConstList/ConstMap, Identifier as a
constant value, defaults other than integers, TypeDef, Const, Namespace, Include, Function,
FunctionType, Throws, Service, Scope, Prefix, Operation, the newline and end-of-file forms of EOS,
Statement (doc comments of declarations), Grammar (the top-level round trip `parse (render m) = m` is
the stated goal and is NOT proved here; the declaration-level theorems above are its largest proved parts).
Recorded findings (KNOWN_FINDINGS.txt) are outside every hypothesis: identifiers with a keyword
prefix in a keyword position, statements sharing a line, literals ending in a backslash, a comment
after `prefix`, Thrift constructs without a production.
-/
import FV.Model.Peg
import FV.Model.IdlSyntax
import FV.Model.IdlActions
import FV.Generated.Grammar
import FV.Proofs.Peg
import FV.Proofs.PegIdl
import FV.Proofs.PegGaps
import FV.Proofs.PegTypes
import FV.Proofs.PegDecls
import FV.Proofs.PegFields
import FV.Proofs.IdlIncludes

namespace FV.C10
open FV.Peg FV.Act FV.Syn FV.Generated FV.PegIdl

/-- Thrift's rule, stated independently of the action: an explicit value is taken as written,
an implicit one is the previous value plus one (`prev = -1` before the first). -/
def thriftNumbers : Int → List (Option Int) → List Int
  | _, [] => []
  | _, some v :: t => v :: thriftNumbers v t
  | prev, none :: t => (prev + 1) :: thriftNumbers (prev + 1) t

theorem numberEnum_thrift (prev : Int) (vs : List RawEV) :
    (numberEnum (prev + 1) vs).map (·.num) = thriftNumbers prev (vs.map (·.value)) := by
  induction vs generalizing prev with
  | nil => rfl
  | cons v t ih =>
    cases hv : v.value with
    | none => simp [numberEnum, thriftNumbers, hv, ih]
    | some x => simp [numberEnum, thriftNumbers, hv, ih]

/-- The numbers the `Enum` action assigns are Thrift's, for every list of enum values (any mix of
explicit — also negative or decreasing — and implicit values); names, docs and annotations are
kept in order. Full strength since the repair of the action (commit 6543e6e in /repo). -/
theorem c10_enum_numbering (vs : List RawEV) :
    (numberEnum 0 vs).map (·.num) = thriftNumbers (-1) (vs.map (·.value)) ∧
    (numberEnum 0 vs).map (·.name) = vs.map (·.name) ∧
    (numberEnum 0 vs).map (·.doc) = vs.map (·.doc) ∧
    (numberEnum 0 vs).map (·.anns) = vs.map (·.anns) := by
  refine ⟨by simpa using numberEnum_thrift (-1) vs, ?_, ?_, ?_⟩ <;>
  · generalize (0 : Int) = n
    induction vs generalizing n with
    | nil => rfl
    | cons v t ih => simp [numberEnum, ih]

/-- The action as it was before the repair (`-1` = no explicit value, a counter that only grows). -/
def oldNumbers : Int → List Int → List Int
  | _, [] => []
  | next, v :: t =>
    let v' := if v < 0 then next else v
    v' :: oldNumbers (if v' ≥ next then v' + 1 else next) t

/-- Why the repair was needed: on `enum E {A=5,B=2,C,D=-3,F}` the old action gave 5,2,6,7,8 where
Thrift's rule gives 5,2,3,-3,-2 (replayed on the real parser: corpus/C10/c10-fixed-enum-numbering.lines). -/
theorem c10_enum_numbering_old_action_counterexample :
    oldNumbers 0 [5, 2, -1, -3, -1] = [5, 2, 6, 7, 8] ∧
    thriftNumbers (-1) [some 5, some 2, none, some (-3), none] = [5, 2, 3, -3, -2] := by
  decide

/-- Thrift's numbering over the values as the `EnumValue` action returns them (`prev = -1` before the first). -/
def thriftEnum : Int → List RawEV → List EnumValue
  | _, [] => []
  | prev, v :: t =>
    let n := match v.value with
      | some x => x
      | none => prev + 1
    { doc := v.doc, name := v.name, num := n, anns := v.anns } :: thriftEnum n t

theorem numberEnum_thriftEnum (prev : Int) (vs : List RawEV) : numberEnum (prev + 1) vs = thriftEnum prev vs := by
  induction vs generalizing prev with
  | nil => rfl
  | cons v t ih => cases hv : v.value <;> simp [numberEnum, thriftEnum, hv, ih]

/-- The enum a written enum denotes: its name, and its values numbered by Thrift's rule. -/
def enumOf (e : SEnum) : Syn.Enum :=
  { doc := none, name := e.c :: e.s, values := thriftEnum (-1) (e.items.map fun p => p.1.raw), anns := [] }

/-- Round trip of the `Enum` rule, syntax and numbering together: for every written enum —
`enum` name `{` values `}` `;` with any gap texts (white space, newlines, comments) between the
tokens, every value with or without doc comment, with or without `= integer` (any sign, any digits
that fit int64), with `,` `;` or no separator — parsing consumes exactly the text and the action
returns the same name and values with Thrift's numbers (fuel `cost + 30`; `cost` is linear in the text).
`Ok` asks that the gaps are gap texts, names are identifiers, and that what follows a value without a
separator is not something the value's own rule would take (`SEnumValue.End`).
Not covered (correspondence only): annotations on the enum and its values, the newline and
end-of-file forms of the statement end (`EOS`), a doc comment on the enum itself (rule Statement). -/
theorem c10_enum_roundtrip (e : SEnum) (rest : List Char) (hok : e.Ok rest) (F : Nat) (hF : e.cost + 30 ≤ F) :
    ∃ t, parse F grammar "Enum" (e.renderK rest) = .ok t rest ∧ evEnum t = enumOf e := by
  obtain ⟨t, hp, hev⟩ := enum_parses e rest hok
  exact ⟨t, hp F hF, by rw [hev, enumOf, ← numberEnum_thriftEnum]; rfl⟩

/-- Non-vacuity: `enum E {A, B=-3\n};` is a written enum the theorem applies to; its numbers are 0, -3. -/

def exV1 : SEnumValue := ⟨none, 'A', [], [], none, some ','⟩
def exV2 : SEnumValue := ⟨none, 'B', [], [], some ⟨[], ⟨['-'], '3', []⟩, []⟩, none⟩
def exEnum : SEnum := ⟨[' '], 'E', [], [' '], [], [(exV1, [' ']), (exV2, ['\n'])], [], []⟩

example : exEnum.renderK [] = "enum E {A, B=-3\n};".toList := by decide +kernel

example : exEnum.Ok [] := by
  refine ⟨.ws ' ' (by decide), by decide, by simp [exEnum], .ws ' ' (by decide), .nil, ?_, ?_, .nil, .nil, HeadP.nil⟩
  · exact TokHead.uustop (HeadP.cons (by decide))
  · refine ⟨⟨trivial, by decide, by simp [exV1], .nil, Or.inl rfl, trivial⟩, .ws ' ' (by decide), ⟨trivial, fun h => by cases h⟩,
      TokHead.uustop (HeadP.cons (by decide)), ?_⟩
    refine ⟨⟨trivial, by decide, by simp [exV2], .nil, trivial, .nil, ⟨Or.inr (Or.inl rfl), by decide, by simp, by decide⟩, .nil⟩, .newline,
      ⟨HeadP.cons (by decide), fun _ _ => HeadP.cons (by decide)⟩, TokHead.uustop (HeadP.cons (by decide)), trivial⟩

example : (enumOf exEnum).values.map (·.num) = [0, -3] := by decide +kernel

/-- Round trip of the `Field` rule: for every written field — optional doc comment, id (any sign and
digits that fit int64), gap, `:`, gap, optional `required`/`optional` with its gap, any well-formed
type (`c10_type_roundtrip_partial`'s class), a separating gap, the name, a gap of `__`, optionally
`=` gap integer gap, then `,` `;` or no separator — with any gap texts (white space, comments)
in the gap positions, parsing consumes exactly the text and the action returns the field (doc, id,
requiredness, name, type, default); fuel `cost + 30`, `cost` linear in the text.
`End` states what may follow a field without separator (nothing its own rule would take).
Not covered (correspondence only): annotations on the field, defaults other than integer literals. -/
theorem c10_field_roundtrip (f : SField) (hok : f.Ok) (rest : List Char) (hend : f.End rest) (F : Nat) (hF : f.cost + 30 ≤ F) :
    ∃ t, parse F grammar "Field" (f.renderK rest) = .ok t rest ∧ evField t = some f.erase := by
  obtain ⟨t, hp, _, hev⟩ := field_parses f hok rest hend
  exact ⟨t, hp F hF, hev⟩

/-- Round trip of `FieldList` (the body of structs, unions, exceptions, argument and throws lists) by
induction over the list: every list of written fields, each followed by a gap of `__`, up to a closer
that cannot start a field (`}` or `)`), gives the list of fields; fuel `2·cost + 10`. -/
theorem c10_fieldlist_roundtrip (items : List (SField × List Char)) (tail : List Char) (hok : FieldsOk items tail)
    (ht : NoFieldStart tail) (F : Nat) (hF : 2 * fieldsCost items + 10 ≤ F) :
    ∃ t, parse F grammar "FieldList" (fieldsK items tail) = .ok t tail ∧ evFields t = some (items.map fun p => p.1.erase) := by
  obtain ⟨t, hp, hev⟩ := fieldList_parses items tail hok ht
  exact ⟨t, hp F hF, hev⟩

/-- The three struct-like declarations. -/
inductive StructKind where
  | struct | exception | union

def StructKind.rule : StructKind → String
  | .struct => "Struct"
  | .exception => "Exception"
  | .union => "Union"

def StructKind.keyword : StructKind → List Char
  | .struct => "struct".toList
  | .exception => "exception".toList
  | .union => "union".toList

/-- What the `Grammar` action stores for the declaration: a union's fields are all optional. -/
def structOf (k : StructKind) (e : SStructLike) : Struct :=
  match k with
  | .union => { e.erase with fields := forceOptional e.erase.fields }
  | _ => e.erase

/-- The value the `Grammar` action computes from the statement's tree (`addStatement`, doc comment aside). -/
def evStructDecl (k : StructKind) (t : Tree) : Option Struct :=
  match k with
  | .union => (evStructLike (FV.Act.get t "st")).map fun c => { c with fields := forceOptional c.fields }
  | _ => evStructLike (FV.Act.get t "st")

/-- Round trip of `Struct` / `Exception` / `Union`: keyword, gap, name, gap, `{`, gap, fields, `}`,
gaps, `;` — for every written declaration the rule consumes exactly the text and the model gets the
name and the fields (for a union: every field optional, whatever was written); fuel `cost + 2·|gap| + 110`.
Not covered (correspondence only): annotations, the newline / end-of-file statement ends, the doc comment
of the declaration (rule Statement). -/
theorem c10_struct_roundtrip (k : StructKind) (ga : List Char) (hga : UGapText ga) (e : SStructLike) (rest : List Char)
    (hok : e.Ok rest) (F : Nat) (hF : e.cost + 2 * ga.length + 110 ≤ F) :
    ∃ t, parse F grammar k.rule (k.keyword ++ (ga ++ e.renderK rest)) = .ok t rest ∧ evStructDecl k t = some (structOf k e) := by
  obtain ⟨tag, hl⟩ : ∃ tag, grammar.lookup k.rule = some (.act tag (.seq [.lit k.keyword false, .ref "_", .lab "st" (.ref "StructLike")])) := by
    cases k
    · exact ⟨_, lk_Struct⟩
    · exact ⟨_, lk_Exception⟩
    · exact ⟨_, lk_Union⟩
  obtain ⟨t, hp, hev⟩ := structKw_parses k.rule tag k.keyword hl ga hga e rest hok
  exact ⟨t, hp F hF, by cases k <;> simp [evStructDecl, structOf, hev]⟩


/-- Non-vacuity: `struct S {\n 1: i32 a\n};` is a written struct the theorems apply to. -/
def exField : SField := ⟨none, ⟨[], '1', []⟩, [], [' '], none, .base "i32".toList, [' '], 'a', [], ['\n'], none, none⟩
def exStruct : SStructLike := ⟨'S', [], [' '], ['\n', ' '], [(exField, [])], [], []⟩

example : "struct".toList ++ ([' '] ++ exStruct.renderK []) = "struct S {\n 1: i32 a\n};".toList := by decide +kernel

theorem exField_ok : exField.Ok :=
  ⟨trivial, ⟨Or.inl rfl, by decide, by simp [exField], by decide⟩, .nil, .ws ' ' (by decide), ⟨by decide, by decide⟩, (by simp [exField, STy.Ok, baseNames]),
    .ws ' ' (by decide), by simp [exField], by decide, by simp [exField], .newline, trivial, trivial⟩

example : exStruct.Ok [] := by
  refine ⟨by decide, by simp [exStruct], .ws ' ' (by decide), .append .newline (.ws ' ' (by decide)), ?_, ?_, .nil, .nil, HeadP.nil⟩
  · exact TokHead.uustop (HeadP.cons (by decide))
  · refine ⟨exField_ok, .nil, ⟨HeadP.cons (by decide), fun _ => ⟨TokHead.uustop (HeadP.cons (by decide)), HeadP.cons (by decide), fun h => by simp [exField] at h⟩⟩,
      TokHead.uustop (HeadP.cons (by decide)), trivial⟩

/-- The `Literal` rule, both quote styles: a written literal `q body q` whose body is scanned by
`(\\q / [^q])*` up to its end (`litBodyOk`: no bare `q`, and no final backslash that would pair with
the closing quote — the recorded finding literal-trailing-backslash is exactly the excluded class) is
consumed exactly, whatever follows, and the action gets its text (fuel `2·|body| + 20`). -/
theorem c10_literal_consumed (q : Char) (hq : IsQuote q) (body next : List Char) (hok : litBodyOk q body = true)
    (F : Nat) (hF : 2 * body.length + 20 ≤ F) :
    ∃ t, parse F grammar "Literal" (q :: body ++ q :: next) = .ok t next ∧ tagOf t = "Literal1" ∧ textOf t = q :: body ++ [q] := by
  obtain ⟨t, hp, h1, h2⟩ := literal_exact q hq body next hok
  exact ⟨t, hp F hF, h1, h2⟩

/-- Round trip of string values in the double-quoted style with the escapes `\\"` `\\\\` `\\n` `\\t` `\\r`:
for EVERY value (any characters) that does not end in a backslash, the rendered literal is consumed
exactly and the action (strconv.Unquote as modelled) returns the value, without error.
PARTIAL — missing for the full statement: the VALUE computed for the single-quoted style (the action's
two `strings.Replace` calls before Unquote); for that style only exact consumption is proved
(`c10_literal_consumed`), the values are covered by the correspondence of suite c10. -/
theorem c10_string_literal_partial (v next : List Char) (hv : endsBS v = false) (F : Nat) (hF : 2 * (renderDQ v).length + 20 ≤ F) :
    ∃ t, parse F grammar "Literal" ('"' :: renderDQ v ++ '"' :: next) = .ok t next ∧
      evLiteral t = v ∧ actErr "Literal1" (textOf t) = false := by
  obtain ⟨t, hp, _, htx⟩ := c10_literal_consumed '"' (Or.inl rfl) (renderDQ v) next (renderDQ_ok v hv).1 F hF
  have hl : literalValue (textOf t) = .ok v := by rw [htx]; exact literalValue_renderDQ v
  refine ⟨t, hp, ?_, ?_⟩
  · simp only [evLiteral, hl]
  · simp [actErr, hl]

/-- The recorded finding on the model: the body of `"a\\\\"` (value `a\\`) is not scanned to its end. -/
theorem c10_string_literal_counterexample : litBodyOk '"' (renderDQ ['a', '\\']) = false ∧ endsBS ['a', '\\'] = true := by
  decide

open FV.Inc in
/-- "The model contains exactly the declared includes": the meaning of a path is the file AT that
path (its origin is the path, its declarations are that file's), and per include edge the meaning
of exactly the path the edge resolves to (`filepath.Join` of the including file's directory and the
written path, cleaned) — for every file system, depth and include graph. -/
theorem c10_include_by_path {α : Type} (n : Nat) (fs : FS α) (p : Path) (d : Deep α) (h : deep n fs p = some d) :
    d.origin = p ∧ ∃ m nd subs, n = m + 1 ∧ fs.lookup p = some nd ∧ d.payload = nd.payload ∧
      subsWith (deep m fs) (dirOf p) nd.includes = some subs ∧ d = .node p nd.payload subs := by
  obtain ⟨m, nd, subs, hn, hl, hs, rfl⟩ := deep_node n fs p d h
  exact ⟨rfl, m, nd, subs, hn, hl, rfl, hs, rfl⟩

open FV.Inc in
/-- Two different paths — whatever their base names — resolve to their own files. -/
theorem c10_include_same_basename_distinct {α : Type} (n : Nat) (fs : FS α) (p1 p2 : Path) (d1 d2 : Deep α)
    (h1 : deep n fs p1 = some d1) (h2 : deep n fs p2 = some d2) :
    d1.origin = p1 ∧ d2.origin = p2 ∧ (∃ nd, fs.lookup p1 = some nd ∧ d1.payload = nd.payload) ∧
      (∃ nd, fs.lookup p2 = some nd ∧ d2.payload = nd.payload) := by
  obtain ⟨o1, _, nd1, _, _, l1, e1, _, _⟩ := c10_include_by_path n fs p1 d1 h1
  obtain ⟨o2, _, nd2, _, _, l2, e2, _, _⟩ := c10_include_by_path n fs p2 d2 h2
  exact ⟨o1, o2, ⟨nd1, l1, e1⟩, ⟨nd2, l2, e2⟩⟩

open FV.Inc in
/-- The parse cache is transparent when its key is injective on paths — in particular for the code's key,
the joined path itself: starting from ANY sound cache (any files visited before, in any order)
`parseFrugal` returns the meaning of the path; so the result does not depend on the visiting order,
and a file reached along two routes (a diamond) has the identical model. -/
theorem c10_include_cache_transparent {α : Type} (fs : FS α) (n : Nat) (c c' : Cache Path α) (p : Path) (d : Deep α)
    (hc : CacheOk id fs c) (h : deepC id n fs c p = some (c', d)) :
    CacheOk id fs c' ∧ ∃ m, deep m fs p = some d :=
  deepC_transparent id (fun _ _ h => h) fs n c p c' d hc h

namespace IncEx
open FV.Inc
/-- main -> a/x, b/y; each includes its own ./common.frugal (payload 1 resp. 2). -/
def fs : FS Nat := [
  (["main.frugal"], ⟨0, [("x", ["a", "x.frugal"]), ("y", ["b", "y.frugal"])]⟩),
  (["a", "x.frugal"], ⟨10, [("common", ["common.frugal"])]⟩),
  (["b", "y.frugal"], ⟨20, [("common", ["common.frugal"])]⟩),
  (["a", "common.frugal"], ⟨1, []⟩),
  (["b", "common.frugal"], ⟨2, []⟩)]
/-- The key of the seeded change C10-m2: the base name. -/
def baseKey (p : Path) : String := p.getLast?.getD ""
def yCommon (d : Option (Deep Nat)) : Option (Path × Nat) :=
  ((d.bind (·.sub? "y")).bind (·.sub? "common")).map fun c => (c.origin, c.payload)
end IncEx

/-- Why the key must be the path: with the cache keyed by base name, `y`'s `common` is the model of
`a/common.frugal` (origin and declarations of the wrong file); by path it is `b/common.frugal`. -/
theorem c10_include_cache_basename_counterexample :
    IncEx.yCommon ((FV.Inc.deepC IncEx.baseKey 5 IncEx.fs [] ["main.frugal"]).map (·.2)) = some (["a", "common.frugal"], 1) ∧
    IncEx.yCommon ((FV.Inc.deepC id 5 IncEx.fs [] ["main.frugal"]).map (·.2)) = some (["b", "common.frugal"], 2) ∧
    IncEx.yCommon (FV.Inc.deep 5 IncEx.fs ["main.frugal"]) = some (["b", "common.frugal"], 2) := by
  decide +kernel

/-- More fuel never changes a result that is `ok` or `fail`: if `parse` answers with fuel `f`, it
gives the same answer with every `f' ≥ f` (for every grammar, rule and input). -/
theorem c10_peg_fuel_monotone (g : Grammar) (rule : String) (inp : List Char) (f f' : Nat) (hle : f ≤ f')
    (h : parse f g rule inp ≠ .outOfFuel) : parse f' g rule inp = parse f g rule inp :=
  pExpr_mono_le g hle (.ref rule) inp h

/-- Identifier shape: a start character (letter or `_`) followed by part characters (letters, digits, `.`, `_`). -/
def IdentShape (s : List Char) : Prop :=
  ∃ c t, s = c :: t ∧ idStart c = true ∧ ∀ x ∈ t, idPart x = true

/-- The character classes are the expected ones. -/
theorem c10_ident_classes (c : Char) :
    (idStart c = (isLetter c || c == '_')) ∧ (idPart c = (isLetter c || isDigit c || c == '.' || c == '_')) := by
  simp [idStart, idPart, letterC_eq, digitC_eq, clsMatches, inRanges, Bool.or_assoc]
  rfl

/-- For every identifier-shaped string `s`, followed by anything that does not start with an
identifier character, rule `Identifier` consumes exactly `s` and its action returns `s`
(fuel `|s| + 12` suffices). -/
theorem c10_identifier (s rest : List Char) (hs : IdentShape s) (hrest : StopsAt idPart rest)
    (F : Nat) (hF : s.length + 12 ≤ F) :
    ∃ t, parse F grammar "Identifier" (s ++ rest) = .ok t rest ∧ evIdent t = s := by
  obtain ⟨c, t, rfl, hc, ht⟩ := hs
  exact ⟨_, identifier_parses c t rest hc ht hrest F (by simpa using hF), rfl⟩

/-- Digits read as a decimal number (Horner). -/
def decimalValue (ds : List Char) : Nat := digitsVal ds 0

/-- For every optional sign and non-empty digit string, followed by a non-digit, rule `IntConstant`
consumes exactly the text; the action (`strconv.ParseInt`) returns the signed decimal value when it
fits int64 and an error otherwise (fuel `|digits| + 10` suffices). -/
theorem c10_int_literal (sign : List Char) (hs : sign = [] ∨ sign = ['-'] ∨ sign = ['+'])
    (d : Char) (ds rest : List Char) (hd : digitC d = true) (hds : ∀ x ∈ ds, digitC x = true)
    (hrest : StopsAt digitC rest) (F : Nat) (hF : ds.length + 10 ≤ F) :
    ∃ t, parse F grammar "IntConstant" (sign ++ d :: ds ++ rest) = .ok t rest ∧
      tagOf t = "IntConstant1" ∧ textOf t = sign ++ d :: ds ∧
      (let n := decimalValue (d :: ds)
       if sign = ['-'] then
         (n ≤ 9223372036854775808 → actErr "IntConstant1" (textOf t) = false ∧ evInt t = -(n : Int)) ∧
         (9223372036854775808 < n → actErr "IntConstant1" (textOf t) = true)
       else
         (n ≤ 9223372036854775807 → actErr "IntConstant1" (textOf t) = false ∧ evInt t = (n : Int)) ∧
         (9223372036854775807 < n → actErr "IntConstant1" (textOf t) = true)) := by
  refine ⟨_, intconst_digits hs hd hds hrest F hF, rfl, rfl, ?_⟩
  simp only [actErr_int, evInt, textOf, parseInt_signed hs hd, decimalValue]
  split
  · exact ⟨fun h => by simp [negInt, h], fun h => by simp [negInt, Nat.not_le.2 h]⟩
  · exact ⟨fun h => by simp [posInt, h], fun h => by simp [posInt, Nat.not_le.2 h]⟩

/-- Round trip of `FieldType` for EVERY type without annotations — base types, named types and
arbitrarily nested `list`/`set`/`map` — in every white-space styling of its brackets (`STy`: the
type plus the white space written after `<`, before `,`/`>` and after `,`): parsing the rendered
text, followed by any separator (`rest` does not start with an identifier character, `<`, `(`,
white space or a comment), consumes exactly the text, and the actions return the type (`erase`).
By induction over the type; fuel bound `cost s + 110`, where `cost` adds 30 per list/set, 40 per
map, the lengths of the names and twice the lengths of the white-space runs.
Hypothesis `Ok`: base names are the grammar's eight, named types are identifiers of which no type
keyword is a prefix (the negation of the recorded finding keyword-prefix-identifier; without it the
statement is false: `c10_type_roundtrip_counterexample`), the `w`s are white space.
PARTIAL — what is missing for the full statement "∀ Ty, ∀ style": (i) types carrying annotations
(`i32 (a = "b")`, rule TypeAnnotations present), (ii) comments after a base or container type inside
the brackets (`list<i32 /* c */>`: admitted by the `_` of BaseType / the container rules). Both are
covered by the correspondence of suite c10 only. -/
theorem c10_type_roundtrip_partial (s : STy) (hok : s.Ok) (rest : List Char) (hr : SepOk rest) (ht : TokHead rest)
    (F : Nat) (hF : s.cost + 110 ≤ F) :
    ∃ t, parse F grammar "FieldType" (s.render ++ rest) = .ok t rest ∧ evTy (tyFuel t) t = some s.erase := by
  obtain ⟨t, mid, h1, hmid, hev⟩ := fieldType_styled s hok [] rest (IsGap.nil _) hr hr.noParen ht
  have hm : mid = rest := by rcases hmid with h | h <;> exact h
  subst hm
  exact ⟨t, h1 F (by simpa using hF), hev⟩

/-- Every annotation-free type has a styling (the canonical one, without white space), so the
round trip covers all of them. -/
theorem c10_type_roundtrip_canonical (ty : Ty) (hna : NoAnns ty) (hok : (STy.canon ty).Ok) (rest : List Char)
    (hr : SepOk rest) (ht : TokHead rest) (F : Nat) (hF : (STy.canon ty).cost + 110 ≤ F) :
    ∃ t, parse F grammar "FieldType" ((STy.canon ty).render ++ rest) = .ok t rest ∧ evTy (tyFuel t) t = some ty := by
  have := c10_type_roundtrip_partial (STy.canon ty) hok rest hr ht F hF
  rwa [STy.erase_canon ty hna] at this

/-- White space inside the brackets is invisible: two stylings of the same type parse to the same value. -/
theorem c10_type_ws_invisible (s1 s2 : STy) (h1 : s1.Ok) (h2 : s2.Ok) (he : s1.erase = s2.erase) (rest : List Char)
    (hr : SepOk rest) (ht : TokHead rest) (F : Nat) (hF1 : s1.cost + 110 ≤ F) (hF2 : s2.cost + 110 ≤ F) :
    ∃ t1 t2, parse F grammar "FieldType" (s1.render ++ rest) = .ok t1 rest ∧ parse F grammar "FieldType" (s2.render ++ rest) = .ok t2 rest ∧
      evTy (tyFuel t1) t1 = evTy (tyFuel t2) t2 := by
  obtain ⟨t1, p1, e1⟩ := c10_type_roundtrip_partial s1 h1 rest hr ht F hF1
  obtain ⟨t2, p2, e2⟩ := c10_type_roundtrip_partial s2 h2 rest hr ht F hF2
  exact ⟨t1, t2, p1, p2, by rw [e1, e2, he]⟩

/-- The hypotheses are satisfiable: `list< base.Item>` before `)`. -/
example : (STy.list [' '] (.named "base.Item".toList) []).Ok ∧ SepOk [')'] ∧ TokHead [')'] :=
  ⟨⟨by unfold IsWs; decide, ⟨⟨_, _, rfl, by decide, by decide⟩, by unfold NoKw; decide⟩, by unfold IsWs; decide⟩,
    HeadP.cons (by decide), HeadP.cons (by decide)⟩

/-- Every gap text is consumed item by item by the repetition of the gap rule, whatever follows. -/
theorem c10_gap_texts : (∀ g, UGapText g → IsGap uBody g) ∧ (∀ g, UUGapText g → IsGap uuBody g) :=
  ⟨fun _ h => h.isGap, fun _ h => h.isGap⟩

/-- Rules `_` and `__` consume exactly a gap text when a token follows (a character that starts
no gap item: not white space, newline, `/`, `#`) or the input ends; fuel `2·|g| + 70`. -/
theorem c10_gap_consumed (g next : List Char) (hn : TokHead next) (F : Nat) (hF : 2 * g.length + 70 ≤ F) :
    (UGapText g → ∃ ts, parse F grammar "_" (g ++ next) = .ok (.seq ts) next) ∧
    (UUGapText g → ∃ ts, parse F grammar "__" (g ++ next) = .ok (.seq ts) next) := by
  constructor
  · intro h
    obtain ⟨ts, hp⟩ := u_consumes g next (c10_gap_texts.1 g h) hn.uhead
    exact ⟨ts, hp F hF⟩
  · intro h
    obtain ⟨ts, hp⟩ := uu_consumes g next (c10_gap_texts.2 g h) hn.uustop
    exact ⟨ts, hp F hF⟩

/-- Comments and white space after a type are invisible: for every well-formed type, every gap text
`g` of `_` (white space, one-line comments; separating the type from what follows when the type is a
name) and every following token, `FieldType` then `_` consume exactly type and gap, and the value is
the type whatever `g` is. (Inside the brackets: `c10_type_ws_invisible`.) -/
theorem c10_type_comments_invisible (s : STy) (hok : s.Ok) (g rest : List Char) (hg : UGapText g)
    (hsep : SepOk (g ++ rest)) (hr : NoParen rest) (ht : TokHead rest) (F : Nat) (hF : s.cost + 2 * g.length + 110 ≤ F) :
    ∃ t mid ts, parse F grammar "FieldType" (s.render ++ (g ++ rest)) = .ok t mid ∧
      parse F grammar "_" mid = .ok (.seq ts) rest ∧ evTy (tyFuel t) t = some s.erase := by
  obtain ⟨t, mid, ts, h1, h2, hev⟩ := typeThenGap s hok g rest hg.isGap hsep hr ht
  exact ⟨t, mid, ts, h1 F hF, h2 F (by omega), hev⟩

/-- The fragment `typ:FieldType _ name:Identifier` shared by the rules Field, TypeDef and Const:
for every well-formed type, every separating gap text (white space, one-line comments) and every
identifier-shaped name followed by a non-identifier character, the three rules in sequence consume
exactly type, gap and name and return the type and the name (fuel `cost + 2·|gap| + |name| + 110`).
PARTIAL with respect to the whole-file round trip `parse (render m) = m`, which is the stated goal:
the rules covered by theorem / by correspondence only are listed in the header of this file. -/
theorem c10_roundtrip_partial (s : STy) (hok : s.Ok) (g : List Char) (hg : UGapText g) (name rest : List Char)
    (hname : IdentShape name) (hrest : StopsAt idPart rest) (hsep : SepOk (g ++ (name ++ rest)))
    (F : Nat) (hF : s.cost + 2 * g.length + name.length + 110 ≤ F) :
    ∃ t mid ts tn, parse F grammar "FieldType" (s.render ++ (g ++ (name ++ rest))) = .ok t mid ∧
      parse F grammar "_" mid = .ok (.seq ts) (name ++ rest) ∧
      parse F grammar "Identifier" (name ++ rest) = .ok tn rest ∧
      evTy (tyFuel t) t = some s.erase ∧ evIdent tn = name := by
  obtain ⟨c, tl, rfl, hc, htl⟩ := hname
  obtain ⟨t, mid, ts, h1, h2, h3⟩ := c10_type_comments_invisible s hok g (c :: tl ++ rest) hg hsep (HeadP.cons (ne_of_class hc (by decide)))
    (HeadP.cons (idPart_tok (idStart_idPart hc))) F (by omega)
  obtain ⟨tn, h4, h5⟩ := c10_identifier (c :: tl) rest ⟨c, tl, rfl, hc, htl⟩ hrest F (by simp at hF ⊢; omega)
  exact ⟨t, mid, ts, tn, h1, h2, h4, h3, h5⟩

/-- `FieldType` on `inp` yields exactly `ty` and leaves `rest` (decidable, evaluated with fuel `fuel`). -/
def tyParses (fuel : Nat) (inp : List Char) (ty : Ty) (rest : List Char) : Bool :=
  match parse fuel grammar "FieldType" inp with
  | .ok t r => decide (r = rest) && decide (evTy (tyFuel t) t = some ty)
  | _ => false

/-- The keyword-prefix finding on the model: a type called `stringy` is read as the base type
`string`, leaving `y` (known finding keyword-prefix-identifier; witness known/c10_keyword_prefix.frugal);
so the round trip needs the hypothesis that excludes such names. -/
theorem c10_type_roundtrip_counterexample :
    tyParses 60 "stringy".toList (.base "string".toList []) ['y'] = true ∧
    tyParses 60 "stringy".toList (.named "stringy".toList) [] = false := by
  decide +kernel

/-- Nested containers and white space inside the brackets (one instance). -/
theorem c10_type_nested_example :
    tyParses 400 "map< string ,list<set<base.Item>>>".toList
      (.map (.base "string".toList []) (.list (.set (.named "base.Item".toList) []) []) []) [] = true := by
  decide +kernel

end FV.C10
