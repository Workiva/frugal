/-
C19 — Code generation is deterministic and location-independent.

  "Compiling the same IDL program with the same options always produces
  byte-identical output files, whatever the number of repetitions, the working
  directory, the absolute location of the sources and the output directory chosen;
  nothing but the IDL content, the options and the compiler version influences the
  generated text."
  (for all valid IDL programs, all targets and options — except the explicitly dated
  java generated_annotations=use —, repeated runs, different cwd / source roots /
  -out directories)

PARTIAL — NAMED.  A functional model is deterministic by construction, so
"the model gives the same output twice" would be an empty statement.  What is
proved here is that each modelled PATTERN through which Go's randomised map
iteration order, an unstable sort, the working directory, the source location or
the `-out` value could reach the output is insensitive to it:

* every permutation of a map's entries is quantified over (`List.Perm`),
* an unstable sort may return ANY sorted permutation (`IsSortOf`),
* locations are explicit parameters (`Invocation`).

`c19_census_all_classified` ties "these are all the sites" to the source: the table
`FV.Census19.sites` is regenerated from /repo on every check (go/ast census of
map ranges, sorts, clock / cwd / environment reads, marshalled maps, template
ranges) and merged with the committed classification; a new, changed or vanished
site is `unclassified` / `vanished` there and the theorem no longer checks.
The text generated INSIDE each site is not modelled: it is covered by the sha256
comparison of the real compiler's outputs (harness/cc/determinism.go) only.

Known finding (KNOWN_FINDINGS.txt html-same-basename-modules): the html generator
sorts its module list unstably by file base name, which is NOT validated distinct
across transitive includes — `c19_html_modules_partial` carries the hypothesis,
`c19_unstable_sort_counterexample` is the witness.
-/
import FV.Model.Determinism
import FV.Proofs.Determinism
import FV.Generated.Census19

namespace FV.C19
open FV.Determinism

/-- Pattern *sorted, distinct keys*: two sorted permutations of a list whose keys are pairwise
distinct are equal — whatever an unstable `sort.Sort` does, its result is a function of the
multiset of elements (scopes by name, includes by name: both validated distinct). -/
theorem c19_sorted_perm_unique (key : α → κ) (le : κ → κ → Bool)
    (antisymm : ∀ a b, le a b = true → le b a = true → a = b)
    (l s₁ s₂ : List α) (hnd : (l.map key).Nodup)
    (h₁ : IsSortOf (fun a b => le (key a) (key b)) l s₁)
    (h₂ : IsSortOf (fun a b => le (key a) (key b)) l s₂) : s₁ = s₂ := by
  refine List.Perm.eq_of_pairwise (le := fun a b => le (key a) (key b) = true) ?_ h₁.2 h₂.2 (h₁.1.trans h₂.1.symm)
  intro a b ha hb hab hba
  exact inj_of_nodup_map hnd (h₁.1.subset ha) (h₂.1.subset hb) (antisymm _ _ hab hba)

/-- …and the input order does not matter either: an unstable sort of ANY permutation of the
list gives the same result as the model's own sort of the list. -/
theorem c19_sort_of_any_order (key : α → κ) (le : κ → κ → Bool)
    (total : ∀ a b, le a b = true ∨ le b a = true)
    (trans : ∀ a b c, le a b = true → le b c = true → le a c = true)
    (antisymm : ∀ a b, le a b = true → le b a = true → a = b)
    (l l' s : List α) (hnd : (l.map key).Nodup) (hp : l'.Perm l)
    (hs : IsSortOf (fun a b => le (key a) (key b)) l' s) :
    s = sortBy (fun a b => le (key a) (key b)) l := by
  refine c19_sorted_perm_unique key le antisymm l _ _ hnd ⟨hs.1.trans hp, hs.2⟩ ?_
  exact sortBy_isSortOf (fun a b => le (key a) (key b)) (fun a b => total (key a) (key b))
    (fun a b c => trans (key a) (key b) (key c)) l

/-- Pattern *keys, then sort* (`for k := range m { ks = append(ks, k) }; sort.Strings(ks)`):
whatever order the map is iterated in, the sorted key list is the same.  No distinctness is
needed here: equal keys are equal elements. -/
theorem c19_keys_sort (le : κ → κ → Bool)
    (total : ∀ a b, le a b = true ∨ le b a = true)
    (trans : ∀ a b c, le a b = true → le b c = true → le a c = true)
    (antisymm : ∀ a b, le a b = true → le b a = true → a = b)
    (m m' : AMap κ β) (hp : m'.Perm m) : keysSorted le m' = keysSorted le m := by
  unfold keysSorted
  refine List.Perm.eq_of_pairwise (le := fun a b => le a b = true) (fun a b _ _ => antisymm a b)
    (sortBy_sorted le total trans _) (sortBy_sorted le total trans _) ?_
  exact (sortBy_perm le _).trans ((hp.map Prod.fst).trans (sortBy_perm le _).symm)

/-- Pattern *commutative insertion* (`for k, v := range src { dst[k] = v }`, building a set):
inserting the entries in any order gives an extensionally equal map, provided the source does
not carry two different values for one key (always true of a Go map, and of a set). -/
theorem c19_insert_commutes [DecidableEq κ] (dst : FMap κ β) (src src' : List (κ × β)) (hp : src'.Perm src)
    (hfun : ∀ x ∈ src, ∀ y ∈ src, x.1 = y.1 → x.2 = y.2) :
    ∀ k, insertAll dst src' k = insertAll dst src k := by
  intro k
  have hfun' : ∀ x ∈ src', ∀ y ∈ src', x.1 = y.1 → x.2 = y.2 :=
    fun x hx y hy => hfun x (hp.subset hx) y (hp.subset hy)
  unfold insertAll
  rw [hp.foldl_eq' (fun x hx y hy z => insert_comm z x y (hfun' x hx y hy)) dst]

/-- the entries of a Go map (keys pairwise distinct) satisfy the hypothesis of `c19_insert_commutes` -/
theorem c19_insert_commutes_map [DecidableEq κ] (dst : FMap κ β) (src src' : AMap κ β) (hp : src'.Perm src)
    (hnd : (src.map Prod.fst).Nodup) : insertAll dst src' = insertAll dst src :=
  funext (c19_insert_commutes dst src src' hp fun _ hx _ hy hk => congrArg Prod.snd (inj_of_nodup_map hnd hx hy hk))

/-- Pattern *key-only / lookup-only*: indexing a map does not depend on the order of its entries. -/
theorem c19_lookup_order_independent [DecidableEq κ] (k : κ) (m m' : AMap κ β)
    (hnd : (m.map Prod.fst).Nodup) (hp : m'.Perm m) : alookup k m' = alookup k m :=
  Option.ext fun v => by
    rw [alookup_eq_some_iff ((hp.map Prod.fst).nodup_iff.mpr hnd), alookup_eq_some_iff hnd, hp.mem_iff]

/-- `OrderedIncludes` is a function of the SET of includes of a file (names are validated
distinct by `validateIncludes`). -/
theorem c19_ordered_includes_perm (incs incs' : List Inc) (hnd : (incs.map Inc.name).Nodup)
    (hp : incs'.Perm incs) : orderedIncludes incs' = orderedIncludes incs := by
  unfold orderedIncludes
  have hsort := sortBy_isSortOf incLe
    (fun a b => (String.le_total a.name b.name).imp decide_eq_true decide_eq_true)
    (fun a b c h₁ h₂ => decide_eq_true (String.le_trans (of_decide_eq_true h₁) (of_decide_eq_true h₂)))
  exact c19_sorted_perm_unique Inc.name strLe strLe_antisymm incs _ _ hnd
    ⟨(hsort incs').1.trans hp, (hsort incs').2⟩ (hsort incs)

/-- The modelled traversal (`compiler.go generateFrugalRec`: includes visited in
`OrderedIncludes` order, targets looked up in the `ParsedIncludes` map, every file generated
once, vendored includes skipped under `use_vendor`) yields the same sequence of files for every
permutation of every file's include list and of every file's `ParsedIncludes` map. -/
theorem c19_order_independent (p p' : Prog) (useVendor : Bool) (fuel root : Nat)
    (hincs : ∀ n, (p'.incs n).Perm (p.incs n)) (hparsed : ∀ n, (p'.parsed n).Perm (p.parsed n))
    (hnames : ∀ n, ((p.incs n).map Inc.name).Nodup) (hkeys : ∀ n, ((p.parsed n).map Prod.fst).Nodup) :
    genOrder p' useVendor fuel root = genOrder p useVendor fuel root := by
  unfold genOrder
  exact genRec_congr p p' useVendor
    (fun n => c19_ordered_includes_perm _ _ (hnames n) (hincs n))
    (fun n k => c19_lookup_order_independent k _ _ (hkeys n) (hparsed n)) fuel root []

/-- every file is generated at most once, whatever the include graph looks like -/
theorem c19_generated_once (p : Prog) (useVendor : Bool) :
    ∀ fuel n acc, acc.Nodup → (genRec p useVendor fuel n acc).Nodup := by
  intro fuel
  induction fuel with
  | zero => intro n acc h; exact h
  | succ f ih =>
    intro n acc h
    rw [genRec]
    split
    · exact h
    · rename_i hn
      -- every step of the loop over the includes keeps the list duplicate-free
      refine List.foldlRecOn _ _ (List.nodup_append.mpr ⟨h, List.pairwise_singleton _ n, ?_⟩) fun a h0 i _ => ?_
      · intro a ha b hb e; cases List.mem_singleton.mp hb; exact hn (e ▸ ha)
      · split
        · exact h0              -- vendored include skipped
        · split
          · exact ih _ _ h0     -- include found: the recursive call
          · exact h0            -- not in `ParsedIncludes`

/-- Location independence of the modelled path computation: for any two invocations — any
source roots, working directories, relative or absolute `-out` values — the emitted paths
relative to the respective output root coincide (= `emittedRel`, which mentions no location);
the absolute paths are the output root followed by them (equivariance in `-out`); python's
`Rel(Abs(out), Abs(outputDir))` is the namespace path for every working directory; and the
identity of source files (keys of `CompiledFiles` / the html module map, absolute paths)
is decided the same way under every source root. -/
theorem c19_location_independent (i i' : Invocation) (us : List GenUnit) :
    (emittedAbs i us).map (relTo i.outRoot) = (emittedAbs i' us).map (relTo i'.outRoot)
    ∧ (emittedAbs i us).map (relTo i.outRoot) = (emittedRel us).map some
    ∧ emittedAbs i us = (emittedRel us).map (fun r => i.outRoot ++ r)
    ∧ (∀ ns, pyPackageRel i ns = some ns)
    ∧ (∀ a b : Path, fileKey i a = fileKey i b ↔ fileKey i' a = fileKey i' b) := by
  have key : ∀ j : Invocation, (emittedAbs j us).map (relTo j.outRoot) = (emittedRel us).map some := by
    intro j
    rw [emittedAbs_eq, List.map_map]
    apply List.map_congr_left
    intro r _
    exact relTo_append _ _
  refine ⟨(key i).trans (key i').symm, key i, emittedAbs_eq i us, ?_, ?_⟩
  · intro ns
    unfold pyPackageRel outputDir
    rw [absPath_append]
    exact relTo_append _ _
  · intro a b
    unfold fileKey
    rw [List.append_cancel_left_eq, List.append_cancel_left_eq]

/-- html `transitiveIncludes` (`for _, m := range moduleMap { ms = append(ms, m) }; sort.Sort(ms)`,
unstable, by `Name`): for every iteration order of the module map and every result the sort may
return, the module list of index.html is the same — PROVIDED the module names (file base names)
are pairwise distinct.  That is validated for the direct includes of one file only, not for
transitive includes: see the counterexample and the known finding. -/
theorem c19_html_modules_partial (modules ms ms' s s' : List (String × Nat))
    (hnd : (modules.map Prod.fst).Nodup) (h : ms.Perm modules) (h' : ms'.Perm modules)
    (hs : IsSortOf (fun a b => strLe a.1 b.1) ms s) (hs' : IsSortOf (fun a b => strLe a.1 b.1) ms' s') :
    s = s' :=
  c19_sorted_perm_unique Prod.fst strLe strLe_antisymm modules s s' hnd
    ⟨hs.1.trans h, hs.2⟩ ⟨hs'.1.trans h', hs'.2⟩

/-- The full statement (without distinct names) is false: two modules named `common`
(a/common.frugal = file 3, b/common.frugal = file 4, witness known/c19_same_basename) have two
different sorted permutations; which one index.html shows depends on the map iteration order. -/
theorem c19_unstable_sort_counterexample :
    ∃ (ms s s' : List (String × Nat)),
      IsSortOf (fun a b => strLe a.1 b.1) ms s ∧ IsSortOf (fun a b => strLe a.1 b.1) ms s' ∧ s ≠ s' := by
  refine ⟨[("common", 3), ("common", 4), ("main", 0)],
          [("common", 3), ("common", 4), ("main", 0)], [("common", 4), ("common", 3), ("main", 0)], ?_, ?_, ?_⟩
  · exact ⟨List.Perm.refl _, by decide⟩
  · exact ⟨List.Perm.swap _ _ _, by decide⟩
  · decide

/-- The census tie: every site of variation found in the compiler's source NOW is classified
by the committed expectation, as one of the insensitive patterns or as a recorded finding
(`FV.Census19.sites` is regenerated from /repo before this file is checked). -/
theorem c19_census_all_classified :
    FV.Census19.sites.all (fun s => s.pattern.accounted) = true := by decide

/-- …and the order-sensitive sites among them are exactly the recorded finding's (at most the
two sites of html `transitiveIncludes`). -/
theorem c19_census_sensitive_bounded :
    (FV.Census19.sites.filter (fun s => !s.pattern.insensitive)).length ≤ 2 := by decide

/-- a program with a diamond, a vendored include, includes out of order; `p'` stores every
list / map in another order -/
def exP : Prog :=
  { incs := fun n => if n = 0 then [⟨"y", false⟩, ⟨"x", true⟩, ⟨"c", false⟩] else if n = 2 then [⟨"c", false⟩] else [],
    parsed := fun n => if n = 0 then [("x", 1), ("c", 3), ("y", 2)] else if n = 2 then [("c", 3)] else [] }
def exP' : Prog :=
  { incs := fun n => if n = 0 then [⟨"c", false⟩, ⟨"y", false⟩, ⟨"x", true⟩] else if n = 2 then [⟨"c", false⟩] else [],
    parsed := fun n => if n = 0 then [("y", 2), ("x", 1), ("c", 3)] else if n = 2 then [("c", 3)] else [] }

example : genOrder exP false 5 0 = [0, 3, 1, 2] := by decide
example : genOrder exP' false 5 0 = [0, 3, 1, 2] := by decide
example : genOrder exP true 5 0 = [0, 3, 2] := by decide
example : ((exP.incs 0).map Inc.name).Nodup ∧ ((exP.parsed 0).map Prod.fst).Nodup := by decide
example : (exP'.incs 0).Perm (exP.incs 0) := by decide
example : (exP'.parsed 0).Perm (exP.parsed 0) := by decide

example : keysSorted strLe [("b", 1), ("a", 2), ("c", 3)] = ["a", "b", "c"] := by decide
example : keysSorted strLe [("c", 3), ("b", 1), ("a", 2)] = ["a", "b", "c"] := by decide

example : insertAll (FMap.empty : FMap String Nat) [("a", 1), ("b", 2)] "b" = some 2 := by decide
example : insertAll (FMap.empty : FMap String Nat) [("b", 2), ("a", 1)] "b" = some 2 := by decide
/-- without the hypothesis of `c19_insert_commutes` the order matters (last write wins) -/
example : insertAll (FMap.empty : FMap String Nat) [("a", 1), ("a", 2)] "a"
        ≠ insertAll (FMap.empty : FMap String Nat) [("a", 2), ("a", 1)] "a" := by decide

def exUnits : List GenUnit := [⟨["n0", "pkg"], ["f_types.go", "f_foo_service.go"]⟩, ⟨["n1"], ["f_types.go"]⟩]
def exI : Invocation := ⟨["tmp", "srcA"], ["tmp", "wd0"], true, ["tmp", "o", "gen"]⟩
def exI' : Invocation := ⟨["elsewhere", "deeper", "copy"], ["home", "u"], false, ["x", "y"]⟩
example : emittedAbs exI' exUnits =
    [["home", "u", "x", "y", "n0", "pkg", "f_types.go"], ["home", "u", "x", "y", "n0", "pkg", "f_foo_service.go"],
     ["home", "u", "x", "y", "n1", "f_types.go"]] := by decide
example : (emittedAbs exI exUnits).map (relTo exI.outRoot) =
    [some ["n0", "pkg", "f_types.go"], some ["n0", "pkg", "f_foo_service.go"], some ["n1", "f_types.go"]] := by decide
example : emittedAbs exI exUnits ≠ emittedAbs exI' exUnits := by decide

end FV.C19
