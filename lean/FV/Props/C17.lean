/-
C17 — Op ids are unique and FContexts are safe to share and clone.

  "Under any concurrent use, every FContext created, cloned or received in a
  process carries an op id different from every other one, concurrent header
  reads and writes on one FContext never corrupt it, and a clone is fully
  independent: it starts with equal headers, timeout and ephemeral properties
  (except for a new op id) and later changes on either side are invisible to
  the other."

Model: FV/Model/ContextHeap.lean — a process-wide uint64 counter and an explicit
heap of maps; a context is three references; `Clone` and the accessors allocate.
A history is ANY list of operations (`run`), i.e. any interleaving of the
operations of any number of goroutines, each operation atomic. Atomicity is what
`c.mu` provides; it is an assumption of these theorems, checked on the current
source by the lock census and exercised by the concurrent stress of the harness
(harness/rt/contextheap.go). Data-race freedom in the sense of the Go memory
model is NOT proved here (partial, see DESIGN.md §7 C17).

Independence is proved from separation of references (`Shielded`, `RInv` in
FV/Proofs/ContextHeap.lean), not from the functional nature of the model: the
model CAN express aliasing, and one alias really exists in the code and in the
model — contexts read from one FProtocol share that protocol's ephemeral map
(`c17_received_share_protocol_eph`).
-/
import FV.Model.ContextHeap
import FV.Proofs.ContextHeap
import FV.Proofs.LockFacts

namespace FV.C17
open FV FV.CH

/-- Uniqueness: for EVERY history with fewer than 2^64 creations — whatever value the
uint64 counter starts from, wrap-around included — the op ids observed on the contexts
produced by NewFContext / Clone / ReadRequestHeader are pairwise distinct. -/
theorem c17_unique (start : Nat) (ops : List Op) (h : creations ops < M64) :
    (createdIds (run (State.init start) ops).2).Nodup := by
  obtain ⟨k, hk, hids⟩ := createdIds_run ops (State.init start)
  rw [hids]
  exact idsFrom_nodup _ k (by omega)

/-- Right after `Clone`: the original reads as before; the clone's request headers are the
original's with `_opid` set to the fresh id (so equal at every other name), response
headers are equal, and so is the timeout (it lives in `_timeout`); ephemeral properties are
equal for `FContextImpl.Clone` and EMPTY for the generic package-level `Clone` of a foreign
FContext (`g = true`: that branch has no access to them) — stated as the code is. -/
theorem c17_clone_equal (s : State) (c : Nat) (g : Bool) (x : Ctx) (h : WF s) (hc : s.ctxs[c]? = some x) :
    ∃ vo vc, view s c = some vo ∧ view (step s (.clone c g)).1 c = some vo ∧
      view (step s (.clone c g)).1 s.ctxs.length = some vc ∧
      vc.req = vo.req.set opIdHeader (dec s.bump) ∧
      vc.req.get? opIdHeader = some (dec s.bump) ∧
      (∀ k, k ≠ opIdHeader → vc.req.get? k = vo.req.get? k) ∧
      vc.resp = vo.resp ∧ vc.eph = (if g then [] else vo.eph) ∧ timeoutOf vc.req = timeoutOf vo.req := by
  obtain ⟨h1, h2, h3, h4, h5⟩ := clone_step s c g x hc
  refine ⟨viewOf s.heap x, ⟨(hget s.heap x.req).set opIdHeader (dec s.bump), hget s.heap x.resp, if g then [] else hget s.heap x.eph⟩,
    ?_, ?_, ?_, rfl, Hdrs.get?_set_same _ _ _, ?_, rfl, rfl, ?_⟩
  · simp only [view, hc, Option.map_some]
  · have : view (step s (.clone c g)).1 c = view s c := by
      apply view_eq_of s _ c x hc (step_ctxs_old s _ c x hc)
      intro r hr
      have := h.ctxs x (List.mem_of_getElem? hc) r hr
      rw [h2]; unfold hget; rw [List.getElem?_append_left this]
    rw [this]; simp only [view, hc, Option.map_some]
  · simp [view, h1, h2, viewOf, hget]
  · intro k hk; exact Hdrs.get?_set_other _ _ _ _ (Ne.symm hk)
  · unfold timeoutOf
    rw [show (Hdrs.set (hget s.heap x.req) opIdHeader (dec s.bump)).get? timeoutHeader = (hget s.heap x.req).get? timeoutHeader from
      Hdrs.get?_set_other _ _ _ _ (by decide)]
    rfl

/-- Independence, as an invariant over arbitrary op lists, from separation of references:
after a clone (index `s.ctxs.length`) of context `c`, inward: no sequence of operations that are
not aimed at the clone changes any read of the clone, and outward: no sequence of operations aimed
at the clone (or at no context: creations, reads, accessors, writes to returned maps)
changes any read of the original. `view` determines every read (`c17_reads_from_view`). -/
theorem c17_clone_independent (s : State) (h : RInv s) (c : Nat) (g : Bool) (x : Ctx) (hc : s.ctxs[c]? = some x) :
    (∀ ops, (∀ op ∈ ops, op.target ≠ some s.ctxs.length) →
      view (run (step s (.clone c g)).1 ops).1 s.ctxs.length = view (step s (.clone c g)).1 s.ctxs.length) ∧
    (∀ ops, (∀ op ∈ ops, op.target = none ∨ op.target = some s.ctxs.length) →
      view (run (step s (.clone c g)).1 ops).1 c = view (step s (.clone c g)).1 c) := by
  obtain ⟨h1, h2, h3, h4, h5⟩ := clone_step s c g x hc
  have hj : (step s (.clone c g)).1.ctxs[s.ctxs.length]? = some ⟨s.heap.length, s.heap.length + 1, s.heap.length + 2⟩ := by
    simp [h1]
  have hc1 := step_ctxs_old s (.clone c g) c x hc
  have wf1 := WF_step s (.clone c g) h.wf
  constructor
  · intro ops hops
    exact view_frame_run (· ≠ some s.ctxs.length) ops _ _ _ hj (created_shielded s _ h.wf wf1 h1 h4 h3) hops
  · intro ops hops
    have hmem := List.mem_of_getElem? hc
    refine view_frame_run (fun o => o = none ∨ o = some s.ctxs.length) ops _ c x hc1 (fun r hr => ?_) hops
    have hlt := h.wf.ctxs x hmem r hr
    refine ⟨Nat.lt_of_lt_of_le hlt (by rw [h2]; simp), fun hm => h.retsCtx r (h3 ▸ hm) x hmem hr, fun t c2 ht h2' => ?_,
      fun t ht hl => ?_⟩ <;> cases ht.resolve_left nofun
    · rw [hj] at h2'; cases h2'
      simp only [Ctx.refs, List.mem_cons, List.not_mem_nil, or_false]; omega
    · rw [h1] at hl; simp at hl; omega

/-- Every read of a context is a function of its view (so "the view is unchanged" means
"every read returns what it returned before"). -/
theorem c17_reads_from_view (s : State) (c : Nat) (q : Query) (w : Which) :
    (step s (.read c q)).2 = (match view s c with | none => Obs.bad | some v => query v q) ∧
    (step s (.get c w)).2 = (match view s c with | none => Obs.bad | some v => Obs.map (v.sel w)) := by
  constructor <;> simp only [step, effect] <;> cases view s c <;> rfl

theorem c17_accessors_copy (s : State) (h : RInv s) (c : Nat) (w : Which) (v : View) (hv : view s c = some v) :
    -- the caller gets the content of the context's map ...
    (step s (.get c w)).2 = .map (v.sel w) ∧
    -- ... in a new map: held by no context and no protocol, distinct from every map returned before
    (step s (.get c w)).1.rets = s.rets ++ [s.heap.length] ∧
    hget (step s (.get c w)).1.heap s.heap.length = v.sel w ∧
    (∀ c' ∈ (step s (.get c w)).1.ctxs, s.heap.length ∉ c'.refs) ∧
    s.heap.length ∉ (step s (.get c w)).1.protos ∧ s.heap.length ∉ s.rets ∧
    -- so no sequence of writes to returned maps (nor anything else not aimed at a context)
    -- changes what any context reads
    (∀ ops, (∀ op ∈ ops, op.target = none) → ∀ k vk, view (step s (.get c w)).1 k = some vk →
      view (run (step s (.get c w)).1 ops).1 k = some vk) := by
  have e : effect s (.get c w) =
      ({ nextOpId := s.nextOpId, allocs := [v.sel w], rets := [s.heap.length] }, .map (v.sel w)) := by
    simp [effect, hv]
  refine ⟨by simp [step, e], by simp [step, e, State.apply], by simp [step, e, State.apply, hget], ?_, ?_, ?_, ?_⟩
  · intro c' hc' hm
    simp only [step, e, State.apply, List.append_nil] at hc'
    have := h.wf.ctxs c' hc' _ hm; omega
  · simp only [step, e, State.apply, List.append_nil]
    intro hm; have := h.wf.protos _ hm; omega
  · intro hm; have := h.wf.rets _ hm; omega
  · intro ops hops k vk hk
    exact untargeted_frame_run ops _ (RInv_step s _ h) hops k vk hk

/-- Every state reached by a history satisfies the invariant the theorems assume. -/
theorem c17_reachable_inv (start : Nat) (ops : List Op) : RInv (run (State.init start) ops).1 :=
  RInv_run ops _ (RInv_init start)

/-- Uniqueness is about what `getOpID` will parse: every id handed out is the decimal
rendering of a number below 2^64 and `strconv.ParseUint` (model: `parseU64`) reads it back. -/
theorem c17_ids_parse (start : Nat) (ops : List Op) :
    ∀ o ∈ createdIds (run (State.init start) ops).2,
      ∃ n, n < M64 ∧ o = some (dec n) ∧ parseU64 (dec n) = some n := by
  obtain ⟨k, _, hids⟩ := createdIds_run ops (State.init start)
  rw [hids]
  intro o ho
  simp only [idsFrom, List.mem_map, List.mem_range] at ho
  obtain ⟨i, _, rfl⟩ := ho
  have hlt : ((State.init start).nextOpId + 1 + i) % M64 < M64 := Nat.mod_lt _ (by unfold M64; omega)
  exact ⟨_, hlt, rfl, parseU64_dec _ hlt⟩

/-- The independence theorem at history level: take ANY history, clone any context it
produced, continue with ANY operations. -/
theorem c17_clone_independent_history (start : Nat) (pre : List Op) (c : Nat) (g : Bool) (x : Ctx)
    (hc : (run (State.init start) pre).1.ctxs[c]? = some x) :
    let s := (run (State.init start) pre).1
    (∀ post, (∀ op ∈ post, op.target ≠ some s.ctxs.length) →
      view (run (step s (.clone c g)).1 post).1 s.ctxs.length = view (step s (.clone c g)).1 s.ctxs.length) ∧
    (∀ post, (∀ op ∈ post, op.target = none ∨ op.target = some s.ctxs.length) →
      view (run (step s (.clone c g)).1 post).1 c = view (step s (.clone c g)).1 c) :=
  c17_clone_independent _ (c17_reachable_inv start pre) c g x hc

/-- Non-interference: a context produced by `NewFContext` or `Clone` reads, after ANY
history, exactly what it would read had only the operations aimed at it been executed. -/
theorem c17_noninterference (s : State) (h : RInv s) (mk : Op)
    (hmk : (∃ cid, mk = .new cid) ∨ (∃ c g x, mk = .clone c g ∧ s.ctxs[c]? = some x)) (ops : List Op) :
    view (run (step s mk).1 ops).1 s.ctxs.length =
    view (run (step s mk).1 (ops.filter fun op => op.target = some s.ctxs.length)).1 s.ctxs.length := by
  have hs : (step s mk).1.ctxs = s.ctxs ++ [⟨s.heap.length, s.heap.length + 1, s.heap.length + 2⟩] ∧
      (step s mk).1.protos = s.protos ∧ (step s mk).1.rets = s.rets := by
    rcases hmk with ⟨cid, rfl⟩ | ⟨c, g, x, rfl, hc⟩
    · exact new_step s cid
    · have ⟨h1, _, h3, h4, _⟩ := clone_step s c g x hc
      exact ⟨h1, h4, h3⟩
  exact owned_view_run _ _ _ (by simp [hs.1]) (created_shielded s _ h.wf (WF_step s mk h.wf) hs.1 hs.2.1 hs.2.2) ops

def k1 : Bytes := [107]
def v1 : Bytes := [118]

/-- The alias that does exist (protocol.go: `ctx.ephemeralProperties = f.ephemeralProperties`):
two contexts read from the same FProtocol share the ephemeral map — a property added
through the second is read through the first. Independence is a theorem about clones
(and about created contexts), not about these. -/
theorem c17_received_share_protocol_eph :
    (run (State.init 0) [.newProto, .fromRequest 0 [(opIdHeader, [49])], .fromRequest 0 [(opIdHeader, [50])],
      .add 1 .eph k1 v1, .read 0 (.header .eph k1)]).2.getLast? = some (.val (some v1)) := by
  decide

-- a history with creations of all three kinds satisfies the hypothesis of `c17_unique`
example : creations [.newProto, .new [99], .clone 0 false, .fromRequest 0 [(opIdHeader, [49])], .add 1 .req k1 v1] < M64 := by
  decide

-- ... and really produces three contexts (so the list of ids is not empty)
example : (run (State.init 7) [.newProto, .new [99], .clone 0 false, .fromRequest 0 [(opIdHeader, [49])]]).1.ctxs.length = 3 := by
  decide

-- the hypotheses of `c17_clone_equal` / `c17_clone_independent` / `c17_accessors_copy` hold in a
-- state with a context that has headers of all three kinds
example : ∃ s x, RInv s ∧ s.ctxs[0]? = some x ∧ (hget s.heap x.eph).get? k1 = some v1 ∧
    (hget s.heap x.resp).get? k1 = some v1 :=
  ⟨(run (State.init 0) [.new [99], .add 0 .eph k1 v1, .add 0 .resp k1 v1, .get 0 .req]).1, ⟨0, 1, 2⟩,
    c17_reachable_inv 0 _, by decide, by decide, by decide⟩

-- a write to a map an accessor returned is a real write (seen by `retRead`) and the context does not see it
example : (run (State.init 0) [.new [99], .get 0 .req, .retSet 0 k1 v1, .retRead 0, .read 0 (.header .req k1)]).2.drop 3
    = [.map ((newReq [99] 1).set k1 v1), .val none] := by
  rfl  -- both sides compute to the same list with `dec 1` left standing (`decide` would have to run the well-founded `dec`)

-- a mutation on the original after the clone is a real change of the original
example : (run (State.init 0) [.new [99], .clone 0 false, .add 0 .req k1 v1, .read 0 (.header .req k1),
    .read 1 (.header .req k1)]).2.drop 3 = [.val (some v1), .val none] := by
  decide

-- the generic package-level Clone (foreign FContext): fresh id like every other creation, request headers
-- kept, ephemeral properties EMPTY — next to FContextImpl.Clone, which copies them
example : creations [.new [99], .clone 0 true, .clone 1 true, .clone 2 false] < M64 := by decide
example : (run (State.init 0) [.new [99], .add 0 .eph k1 v1, .add 0 .req k1 v1, .clone 0 true, .clone 0 false,
    .read 1 (.header .eph k1), .read 2 (.header .eph k1), .read 1 (.header .req k1)]).2.drop 5
    = [.val none, .val (some v1), .val (some v1)] := by
  decide

/-- `getOpID` as a function of the request header map alone. -/
def opIdOf (m : AMap) : Obs := query ⟨m, [], []⟩ .opId

/-- Quiescent consistency of the accessors. In EVERY state reached by ANY interleaving of the
atomic operations, every derived accessor of a context is a function of the header maps the
copying accessors return at that moment: Timeout()/ToContext decode `_timeout` of
RequestHeaders(), CorrelationID() is `_cid`, getOpID parses `_opid`, the single-header getters
look up the same maps and the FProtocol write path serialises exactly them. (The model has no
second copy of any fact; the harness checks the same equalities on the real code after
concurrent mutators and readers of one context have finished — kind `quiescent`.) -/
theorem c17_accessors_agree_with_headers (start : Nat) (ops : List Op) (c : Nat) (mq mp me : AMap) :
    let s := (run (State.init start) ops).1
    (step s (.get c .req)).2 = .map mq → (step s (.get c .resp)).2 = .map mp → (step s (.get c .eph)).2 = .map me →
    (step s (.read c .timeout)).2 = .dur (timeoutOf mq) ∧
    (step s (.read c .toContext)).2 = .flag (decide (timeoutOf mq > 0)) ∧
    (step s (.read c .cid)).2 = .val (some ((mq.get? cidHeader).getD [])) ∧
    (step s (.read c .opId)).2 = opIdOf mq ∧
    (step s (.read c .wireReq)).2 = .map mq ∧ (step s (.read c .wireResp)).2 = .map mp ∧
    (∀ k, (step s (.read c (.header .req k))).2 = .val (mq.get? k)) ∧
    (∀ k, (step s (.read c (.header .resp k))).2 = .val (mp.get? k)) ∧
    (∀ k, (step s (.read c (.header .eph k))).2 = .val (me.get? k)) := by
  intro s hq hp he
  simp only [step, effect] at hq hp he ⊢
  cases hv : view s c with
  | none => simp [hv] at hq
  | some v =>
    simp only [hv, View.sel] at hq hp he ⊢
    cases hq; cases hp; cases he
    simp [query, View.sel, opIdOf]

/-- A clone taken in any state agrees with its source on every derived fact: timeout,
deadline, correlation id, every request header except `_opid`, every response header. -/
theorem c17_clone_agrees_with_source (s : State) (c : Nat) (g : Bool) (x : Ctx) (h : WF s)
    (hc : s.ctxs[c]? = some x) :
    let s1 := (step s (.clone c g)).1
    let j := s.ctxs.length
    (step s1 (.read j .timeout)).2 = (step s (.read c .timeout)).2 ∧
    (step s1 (.read j .toContext)).2 = (step s (.read c .toContext)).2 ∧
    (step s1 (.read j .cid)).2 = (step s (.read c .cid)).2 ∧
    (∀ k, k ≠ opIdHeader → (step s1 (.read j (.header .req k))).2 = (step s (.read c (.header .req k))).2) ∧
    (∀ k, (step s1 (.read j (.header .resp k))).2 = (step s (.read c (.header .resp k))).2) := by
  obtain ⟨vo, vc, h1, _, h3, _, _, h6, h7, _, h9⟩ := c17_clone_equal s c g x h hc
  intro s1 j
  have R1 : ∀ q, (step s1 (.read j q)).2 = query vc q := by
    intro q; rw [(c17_reads_from_view s1 j q .req).1, show view s1 j = some vc from h3]
  have R0 : ∀ q, (step s (.read c q)).2 = query vo q := by
    intro q; rw [(c17_reads_from_view s c q .req).1, h1]
  simp only [R1, R0, query, View.sel, h9, h7]
  refine ⟨trivial, trivial, ?_, ?_, ?_⟩
  · rw [h6 cidHeader (by decide)]
  · intro k hk; rw [h6 k hk]
  · intro k; trivial

/-- **Lock discipline behind the model's atomic steps** (FContext): conditions (N) and (L) of FV/Model/Locks.lean
for these mutexes, decided by the kernel on the facts regenerated from lib/go on every check (spelt out at
`FV.C01.c01_lock_discipline`). -/
theorem c17_lock_discipline :
    FV.Locks.ok [4] FV.Generated.Locks.mutexTags FV.Generated.Locks.facts = true :=
  FV.Locks.ok_of_closed FV.Generated.Locks.facts_closed (by decide +kernel)

/-- **No mutex is copied** (regenerated from lib/go on every check): no method copies its receiver's struct BY
VALUE (`x := *c`) when that struct holds a mutex by value — a clone built from such a copy would start with
the original's mutex in whatever state a concurrent reader or writer left it. -/
theorem c17_no_lock_copied : FV.Generated.Locks.lockCopies = [] := by decide

/-- **Fields are written under their lock** (FContext: the header maps and everything derived from them):
`writesGuarded` (FV/Model/Locks.lean, "Guarded-by") for this property's locks, on the facts regenerated from
lib/go on every check (spelt out at `FV.C06.c06_fields_written_under_lock`). -/
theorem c17_fields_written_under_lock :
    FV.Locks.writesGuarded [4] FV.Generated.Locks.unguardedUnexpected = true := by decide +kernel

/-- **Locks held across calls are released by defer**: `releasedByDefer` (FV/Model/Locks.lean, "Panic safety of
critical sections") for this property's locks, on the facts regenerated from lib/go on every check (spelt out at
`FV.C06.c06_locks_released_by_defer`). -/
theorem c17_locks_released_by_defer :
    FV.Locks.releasedByDefer [4] FV.Generated.Locks.manualUnexpected = true := by decide +kernel

end FV.C17
