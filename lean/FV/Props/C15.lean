/-
C15 — Transport failure is detected, reported once and recoverable, repeatedly.

  "For every point at which the underlying byte stream can end or fail (between frames, inside a
  frame, on write or flush) and every history of open, failure, reopen and close, the client
  transport ends up closed, publishes exactly one close cause (nil only for a clean close),
  notifies its monitor every time, and reopens successfully as often as the monitor policy
  allows, with at most the configured number of attempts and waits never above the configured
  maximum. Open, Close and IsOpen never deadlock and report ALREADY_OPEN and NOT_OPEN
  consistently."

Model: `FV.Adapter` (adapter_transport.go as a transition system, one action per statement group
between blocking points; `Reachable` = reachable by ANY action list from `init true`, the repaired
code) and `FV.Monitor` (transport_monitor.go). "nil only for a clean close" is read as the code's own
classification (`Closer.cause`): nil for `Close()` and for END_OF_FILE — an EOF inside a frame is
END_OF_FILE too — the error otherwise. `init false` is the code before the first repair (one shared
closeSignal), `init true false` the code before the second (IsOpen always asks the underlying
transport, holding the read lock; over a thrift.TSocket that call waits for the read loop's
pending Read); the `…_before_fix` theorems replay the defects on them.
-/
import FV.Model.Adapter
import FV.Model.Monitor
import FV.Proofs.Adapter
import FV.Proofs.AdapterProgress
import FV.Proofs.Monitor
import FV.Model.Flapping
import FV.Proofs.Flapping
import FV.Model.Framed
import FV.Proofs.Framed
import FV.Model.NatsClient
import FV.Proofs.NatsClient
import FV.Proofs.LockFacts

namespace FV.C15
open FV FV.Adapter FV.Monitor

/-- No deadlock, user side: in every reachable state every `Open`/`Close`/`IsOpen` call in progress
can take its next step, or the goroutine holding the mutex can (and that step releases the mutex).
Nobody waits on `closeSignal` while holding the mutex. -/
theorem c15_no_deadlock {s : Sys} (hr : Reachable s) (i : Nat) (c : Call)
    (hc : s.calls[i]? = some c) (hp : ∀ r, c.pc ≠ .done r) :
    (step s (.callStep i true)).isSome = true ∨
    ∃ p, s.mu = some p ∧ (step s p.act).isSome = true ∧ ∀ s', step s p.act = some s' → s'.mu = none := by
  have h := inv_reachable hr
  cases hmu : s.mu with
  | none => exact Or.inl (call_enabled_of_free h hmu i c hc hp)
  | some p =>
    obtain ⟨w, hw⟩ := holder_step h hmu
    exact Or.inr ⟨p, rfl, by simp [hw], fun s' hs' => by rw [hw] at hs'; cases hs'; exact finish_mu p s w⟩

/-- No deadlock, read-loop side: a read loop that is closing the transport is never stuck either. -/
theorem c15_no_deadlock_loops {s : Sys} (hr : Reachable s) (k : Nat)
    (hk : (∃ ev, s.loopPc k = some (.onerror ev)) ∨ (∃ w, s.loopPc k = some (.closing w)) ∨
          (∃ w, s.loopPc k = some (.atSignal w))) :
    (step s (.loopStep k)).isSome = true ∨ ∃ p, s.mu = some p ∧ (step s p.act).isSome = true := by
  have h := inv_reachable hr
  cases hmu : s.mu with
  | some p => obtain ⟨w, hw⟩ := holder_step h hmu; exact Or.inr ⟨p, rfl, by simp [hw]⟩
  | none =>
    left
    rcases hk with ⟨ev, hev⟩ | ⟨w, hw⟩ | ⟨w, hw⟩
    · have hev' : s.incs[k]?.map Inc.loop = some (.onerror ev) := hev
      simp only [step, hev']; split <;> simp
    · have hw' : s.incs[k]?.map Inc.loop = some (.closing w) := hw
      simp only [step, hw', hmu]; simp; split <;> simp
    · have := h.loopAt k w hw; simp [hmu] at this

/-- `Open` on an open transport reports ALREADY_OPEN, `Close` on a closed one NOT_OPEN, and
neither changes the life-cycle state (any state, mutex free). -/
theorem c15_states_consistent (s : Sys) (i : Nat) (b : Bool) (hmu : s.mu = none) :
    (s.calls[i]? = some ⟨.open, .start⟩ → s.isOpen = true →
        step s (.callStep i b) = some (setCall s i (.done .alreadyOpen))) ∧
    (s.calls[i]? = some ⟨.close, .start⟩ → s.isOpen = false →
        step s (.callStep i b) = some (setCall s i (.done .notOpen))) := by
  refine ⟨?_, ?_⟩ <;> intro hc <;> simp [step, hc, hmu] <;> intro ho <;> simp [ho]

/-- `IsOpen` reports the state in ONE step, in every reachable state with the mutex free: it never
enters the underlying transport's `IsOpen()` (which over a thrift.TSocket waits for the read loop's
pending Read), because the read loop of an open incarnation has never returned. -/
theorem c15_isopen_never_asks_underlying {s : Sys} (hr : Reachable s) (i : Nat) (b : Bool) (hmu : s.mu = none)
    (hc : s.calls[i]? = some ⟨.isOpen, .start⟩) :
    step s (.callStep i b) = some (setCall s i (.done (.bool s.isOpen))) := by
  have h := (reachable_indInv hr).never_asks
  rw [Sys.asks] at h
  simp only [step, hc, hmu, h]; simp

/-- … and conversely `Open` returns nil only on a closed transport and then it is open;
`Close` starts closing only an open transport. -/
theorem c15_states_consistent_ok (s s' : Sys) (i : Nat) (b : Bool) (hs : step s (.callStep i b) = some s') :
    (s.calls[i]? = some ⟨.open, .start⟩ → s'.calls[i]? = some ⟨.open, .done .ok⟩ →
        s.isOpen = false ∧ s'.isOpen = true ∧ s'.incs.length = s.incs.length + 1) ∧
    (s.calls[i]? = some ⟨.close, .start⟩ → s'.calls[i]? = some ⟨.close, .atSignal⟩ → s.isOpen = true) := by
  -- a rule for another kind of call, or for another point of this one, does not apply
  have other : ∀ {c c' : Call} {P : Prop}, s.calls[i]? = some c → c ≠ c' → s.calls[i]? = some c' → P :=
    fun h ne h' => absurd (Option.some.inj (h.symm.trans h')) ne
  cases step_sound hs with
  | «open» h0 _ ho => exact ⟨fun _ _ => ⟨ho, rfl, by simp⟩, other h0 (by decide)⟩
  | closeLock h0 _ ho => exact ⟨other h0 (by decide), fun _ _ => ho⟩
  | openAlready h0 | openFails h0 => exact ⟨fun hc hc' => by simp [hc] at hc', other h0 (by decide)⟩
  | closeNotOpen h0 => exact ⟨other h0 (by decide), fun hc hc' => by simp [hc] at hc'⟩
  | isOpenAsks h0 | isOpen h0 | isOpenAsked h0 | closeCall h0 => exact ⟨other h0 (by decide), other h0 (by decide)⟩

/-- Exactly one value per incarnation: between an `Open` that returned nil and the next, the
incarnation's `Closed()` channel carries nothing while it is the open one, and exactly one value —
the cause of whoever closed it — and is closed, as soon as it is not. Never more than one. -/
theorem c15_one_cause_per_incarnation {s : Sys} (hr : Reachable s) (k : Nat) (i : Inc) (hi : s.incs[k]? = some i) :
    (s.openAt k → i.chan = [] ∧ i.chanClosed = false ∧ i.closedBy = none) ∧
    (¬ s.openAt k → ∃ w, i.closedBy = some w ∧ i.chan = [w.cause] ∧ i.chanClosed = true) ∧
    i.chan.length ≤ 1 := by
  have h := (reachable_indInv hr).incs.each k i hi
  refine ⟨fun ho => let ⟨_, b, c, d, _⟩ := h.untouched ho; ⟨b, c, d⟩, h.closed, ?_⟩
  by_cases ho : s.openAt k
  · simp [(h.untouched ho).2.1]
  · obtain ⟨w, _, hc, _⟩ := h.closed ho; simp [hc]

/-- The published value is nil iff the close was requested by `Close()` or the stream ended with EOF. -/
theorem c15_cause_classification (w : Closer) : w.cause = .clean ↔ (w = .user ∨ w = .peerEof) := by
  cases w <;> simp [Closer.cause]

/-- The read loop classifies END_OF_FILE as a clean close and everything else as a failure; at
the open incarnation the `select` on closeSignal never finds a token, so the failure is never
swallowed: the loop goes on to `close()`. -/
theorem c15_failure_not_swallowed {s : Sys} (hr : Reachable s) (k : Nat) (ev : Ev)
    (ho : s.openAt k) (hk : s.loopPc k = some (.onerror ev)) :
    step s (.loopStep k) = some (setLoop s k (.closing (if ev = .eof then .peerEof else .failure))) := by
  have hk' : s.incs[k]?.map Inc.loop = some (.onerror ev) := hk
  have hz : ¬ s.sigOf k > 0 := fun hp => sigOf_pos_not_open (reachable_indInv hr) k hp ho
  simp [step, hk', hz]

/-- Reopen works again (safety): in every reachable state — after any number of closes and
reopens — a read loop that has returned belongs to an incarnation that is closed and has published
exactly one cause. No read loop ever returns leaving its transport "open". -/
theorem c15_reopen_again {s : Sys} (hr : Reachable s) (k : Nat) (hd : s.loopPc k = some .done) :
    ¬ s.openAt k ∧ ∃ i w, s.incs[k]? = some i ∧ i.closedBy = some w ∧ i.chan = [w.cause] ∧ i.chanClosed = true := by
  have h := inv_reachable hr
  have hno := h.loopDone k hd
  refine ⟨hno, ?_⟩
  simp only [Sys.loopPc] at hd
  cases hi : s.incs[k]? with
  | none => simp [hi] at hd
  | some i =>
    obtain ⟨w, a, b, c⟩ := h.closedInc k i hi hno
    exact ⟨i, w, rfl, a, b, c⟩

/-- Failure is detected (progress): from every reachable state in which the read loop of ANY
incarnation has seen its read fail, at most 4 steps of that loop and of the goroutine holding the
mutex (no step of the environment, no new call) bring the loop to its end, with its incarnation
closed, exactly one cause published and `isOpen = false` for it. -/
theorem c15_failure_detected {s : Sys} (hr : Reachable s) (k : Nat)
    (hk : (∃ ev, s.loopPc k = some (.onerror ev)) ∨ (∃ w, s.loopPc k = some (.closing w)) ∨
          (∃ w, s.loopPc k = some (.atSignal w))) :
    ∃ as s', as.length ≤ 4 ∧ (∀ a ∈ as, a = .loopStep k ∨ ∃ p, s.mu = some p ∧ a = p.act) ∧
      run s as = some s' ∧ s'.loopPc k = some .done ∧ ¬ s'.openAt k ∧
      ∃ i w, s'.incs[k]? = some i ∧ i.closedBy = some w ∧ i.chan = [w.cause] ∧ i.chanClosed = true := by
  obtain ⟨as0, hr0⟩ := hr
  obtain ⟨as, s', hl, hown, hrun, hd⟩ := loop_finishes (reachable_indInv ⟨as0, hr0⟩) k hk
  have hr' : Reachable s' := ⟨as0 ++ as, by rw [run_append, hr0]; exact hrun⟩
  obtain ⟨a, b⟩ := c15_reopen_again hr' k hd
  exact ⟨as, s', hl, hown, hrun, hd, a, b⟩

/-- Monitor notified: a step that closes an open transport whose monitor channel is empty (the
runner has taken the previous notification) puts exactly one value into the monitor channel, and
it is the value published on `Closed()`.
PARTIAL: the code's send is non-blocking on a capacity-1 channel; with an unreceived notification
still in the channel the new one is dropped (`c15_monitor_full_channel_counterexample`) — this needs
two closes (hence an `Open` by someone other than the runner in between) while the runner is busy. -/
theorem c15_monitor_notified_partial {s s' : Sys} {a : Action} (hr : Reachable s) (hs : step s a = some s')
    (ho : s.isOpen = true) (hc : s'.isOpen = false) (hm : s.mon = some []) :
    ∃ w, s'.mon = some [w.cause] ∧ s'.monSent = s.monSent + 1 ∧ s'.monDropped = s.monDropped ∧
      ∃ i, s'.incs[s.cur]? = some i ∧ i.closedBy = some w ∧ i.chan = [w.cause] := by
  have h := inv_reachable hr
  obtain ⟨p, w, rfl⟩ := closing_step (step_sound hs) ho hc
  obtain ⟨m1, m2, m3⟩ := doClose_mon_empty s h.fresh w hm
  obtain ⟨ic, hic, _, h2, _, h4⟩ := h.openInc ho
  obtain ⟨c1, c2, _⟩ := closeInc_cur h2 h4 s.cur w
  have hi : (doClose s w).incs[s.cur]? = some (closeInc s.cur w s.cur ic) := by rw [doClose_incs s w h.fresh, hic]; rfl
  cases p with
  | call i => exact ⟨w, m1, m2, m3, _, hi, c1, c2⟩
  | loop k =>
    refine ⟨w, m1, m2, m3, ?_⟩
    simp only [Pid.finish, setLoop_incs, hi, Option.map_some]
    exact ⟨_, rfl, by split <;> exact c1, by split <;> exact c2⟩

/-- Accounting for all closes: every close either sent its value or found the channel full, and
the channel never holds more than its capacity; sent = received + buffered. -/
theorem c15_monitor_accounting {s : Sys} (hr : Reachable s) :
    s.monSent = s.monLog.length + (s.mon.getD []).length ∧ ∀ buf, s.mon = some buf → buf.length ≤ monitorChanCap := by
  have h := inv_reachable hr
  exact ⟨h.monCount, h.monBuf⟩

/-- The monitor statement at full strength is false of the code: second close while the first
notification is still unreceived — dropped. -/
theorem c15_monitor_full_channel_counterexample :
    (run (init true) [.setMonitor, .invoke .open, .callStep 0 true, .read 0 .err, .loopStep 0, .loopStep 0, .loopStep 0,
      .invoke .open, .callStep 1 true, .read 1 .err, .loopStep 1, .loopStep 1, .loopStep 1]).map
      (fun s => (s.monSent, s.monDropped, s.mon)) = some (1, 1, some [.dirty]) := by
  decide

/-- Closing a closed channel panics in Go; the model never gets there. -/
theorem c15_no_panic {s : Sys} (hr : Reachable s) : s.panicked = false := (inv_reachable hr).noPanic

/-- Before the repair (one shared closeSignal): peer EOF, reopen, `Close()` — the closer holds the
mutex and its send on closeSignal is blocked for good; `IsOpen` is blocked behind it. -/
theorem c15_counterexample_before_fix_deadlock :
    ∃ s, run (init false) [.invoke .open, .callStep 0 true, .read 0 .eof, .loopStep 0, .loopStep 0, .loopStep 0,
        .invoke .open, .callStep 1 true, .invoke .close, .callStep 2 true, .invoke .isOpen] = some s ∧
      s.mu = some (.call 2) ∧ step s (.callStep 2 true) = none ∧ step s (.callStep 3 true) = none := by
  refine ⟨_, rfl, ?_, ?_, ?_⟩ <;> decide

/-- Before the second repair (`guarded = false`), over a transport whose `IsOpen()` waits for a
pending Read (thrift.TSocket), silent peer: `IsOpen` takes the read lock, enters the underlying
`IsOpen()` and stays there while the read loop is blocked in Read; `Close()` cannot take the lock.
Only the peer (a `read` action) can release them. -/
theorem c15_counterexample_before_fix_isopen_deadlock :
    ∃ s, run (init true false) [.invoke .open, .callStep 0 true, .invoke .isOpen, .callStep 1 true, .invoke .close] = some s ∧
      s.mu = some (.call 1) ∧ step s (.callStep 1 true) = none ∧ step s (.callStep 2 true) = none ∧
      s.loopPc 0 = some .reading := by
  refine ⟨_, rfl, ?_, ?_, ?_, ?_⟩ <;> decide

/-- Before the repair: read error, reopen, read error — the second loop finds the stale token and
returns; the transport stays open with nothing published. -/
theorem c15_counterexample_before_fix_swallowed :
    ∃ s, run (init false) [.invoke .open, .callStep 0 true, .read 0 .err, .loopStep 0, .loopStep 0, .loopStep 0,
        .invoke .open, .callStep 1 true, .read 1 .err, .loopStep 1] = some s ∧
      s.loopPc 1 = some .done ∧ s.isOpen = true ∧ (s.incs[1]?.map Inc.chan) = some [] := by
  refine ⟨_, rfl, ?_, ?_, ?_⟩ <;> decide

/-- BaseFTransportMonitor: after an unclean close the runner calls `Open` at most
`MaxReopenAttempts` times, whatever the outcomes of those calls. -/
theorem c15_attempts_bounded (m : Base) (outs : List Bool) :
    attempts (handleClose m.policy false outs) ≤ m.maxReopenAttempts := by
  rw [handleClose_base]
  split
  · rename_i h
    have := attemptReopen_attempts m outs m.initialWait 0 h
    simpa [attempts] using this
  · simp [attempts]

/-- Every wait of the runner is at most `MaxWait`, provided `InitialWait ≤ MaxWait`
(int64 wrap of the doubling included). -/
theorem c15_waits_bounded (m : Base) (outs : List Bool) (h : m.initialWait ≤ m.maxWait) :
    ∀ w ∈ sleeps (handleClose m.policy false outs), w ≤ m.maxWait := by
  rw [handleClose_base]
  intro w hw
  simp only [sleeps] at hw
  split at hw
  · exact attemptReopen_sleeps m outs _ 0 h w hw
  · simp [sleeps] at hw

/-- The budget is per outage ("reopens successfully as often as the monitor policy allows"): for ANY
sequence of unclean closes handled by one runner in which outage i needs k_i failing `Open`s before
one succeeds, k_i < MaxReopenAttempts, EVERY outage ends reopened and the runner never returns —
failed attempts of earlier, healed outages are not charged to a later one. -/
theorem c15_budget_per_outage (m : Base) (ks : List Nat) (h : ∀ k ∈ ks, k < m.maxReopenAttempts) :
    (runner m.policy (ks.map fun k => (false, outageOuts k []))).count .reopenSucceeded = ks.length ∧
    MEv.terminated ∉ runner m.policy (ks.map fun k => (false, outageOuts k [])) := by
  induction ks with
  | nil => simp [runner]
  | cons k ks ih =>
    obtain ⟨a, b, _⟩ := handleClose_reopens m k [] (h k (by simp))
    obtain ⟨c, d⟩ := ih (fun x hx => h x (by simp [hx]))
    simp only [List.map_cons, runner, b]
    refine ⟨?_, ?_⟩
    · rw [List.count_append, a]; simp at c ⊢; omega
    · have : MEv.terminated ∉ handleClose m.policy false (outageOuts k []) := by
        intro hm; simp [endsRunner, hm] at b
      simp at d ⊢; exact ⟨this, d⟩

/-- … and within one outage the runner keeps trying until it succeeds: exactly k+1 attempts, one success,
for every k < MaxReopenAttempts (the lower bound that goes with `c15_attempts_bounded`); with exactly
MaxReopenAttempts failures it gives up after MaxReopenAttempts attempts. -/
theorem c15_keeps_trying (m : Base) (k : Nat) (rest : List Bool) (h : k < m.maxReopenAttempts) :
    (handleClose m.policy false (outageOuts k rest)).count .reopenSucceeded = 1 ∧
    endsRunner (handleClose m.policy false (outageOuts k rest)) = false ∧
    attempts (handleClose m.policy false (outageOuts k rest)) = k + 1 :=
  handleClose_reopens m k rest h

/-- Every outage starts afresh: the first wait is InitialWait and the attempt counter starts at 0
(`handleClose` calls `attemptReopen` with the policy's initial wait and 0 previous attempts). -/
theorem c15_outage_starts_afresh (m : Base) (outs : List Bool) (h : m.maxReopenAttempts > 0) :
    handleClose m.policy false outs =
      .closedUncleanly true m.initialWait :: attemptReopen m.policy outs m.initialWait 0 := by
  simp [handleClose_base, h]

/-- A counter that survives from one outage to the next (the runner entering `attemptReopen` with the
1 failure of an earlier, healed outage) makes the runner give up an outage the policy allows it to
heal: MaxReopenAttempts 2, one failing attempt — with the counter at 0 it reopens, at 1 it stops. -/
theorem c15_lifetime_counter_counterexample :
    MEv.reopenSucceeded ∈ attemptReopen (Base.policy ⟨2, 0, 0⟩) (outageOuts 1 []) 0 0 ∧
    MEv.terminated ∈ attemptReopen (Base.policy ⟨2, 0, 0⟩) (outageOuts 1 []) 0 1 ∧
    MEv.reopenSucceeded ∉ attemptReopen (Base.policy ⟨2, 0, 0⟩) (outageOuts 1 []) 0 1 := by
  decide

/-- Monitors are independent: with several transports, each with its own monitor value whose
fields the application may rewrite at any time, the runner trace of transport `i` over ANY
interleaving of outages and policy changes of all transports is exactly what monitor `i` alone
would do on its own outages and its own policy changes — nothing done to another monitor shows.
(Trivial in the model, where instances are separate values; the tie `c15multi` checks it of the
code, where `NewDefaultFTransportMonitor()` must hand out a fresh value each time.) -/
theorem c15_monitors_independent (ms : List Inst) (as : List MAct) (i : Nat) (m : Inst) (hm : ms[i]? = some m) :
    (multiRun ms as).filterMap (fun e => if e.1 = i then some e.2 else none) = singleRun m as i :=
  multi_independent ms as i m hm

/-! ### A flapping peer (`FV.Flapping`: the runner as the consumer of the monitor channel) -/

/-- One report per failure under flapping: for EVERY script of the runner's Opens (refused /
accepted-and-dies-at-once / healthy, any mix, any length), EVERY policy and EVERY interleaving of
environment failures and runner handlings in which only the monitor reopens the transport: the
number of close reports the runner has handled plus the (at most one) cause still waiting in its
channel equals the number of actual failures of an open transport — no report without a failure
(`reports ≤ failures`), no second report for one failure, no failure lost (`dropped = 0`); a waiting
cause has a live runner to take it; once the channel is empty `reports = failures` exactly. -/
theorem c15_flapping_one_report_per_failure (p : Policy) (script : List Flapping.Outcome) (acts : List Flapping.Act)
    (hn : ∀ a ∈ acts, a ≠ .appOpen) :
    let s := Flapping.run p (Flapping.init script) acts
    s.failures = s.reports + s.chan ∧ s.chan ≤ 1 ∧ s.dropped = 0 ∧ s.reports ≤ s.failures ∧
    (s.chan = 1 → s.alive = true ∧ s.isOpen = false) ∧ (s.chan = 0 → s.reports = s.failures) := by
  have hf := Flapping.finv_run p (Flapping.finv_init script) acts
  have hm := Flapping.minv_run p (Flapping.finv_init script) (Flapping.minv_init script) acts hn
  have h1 := hf.account
  have h2 := hf.cap
  have h3 := hm.noDrop
  refine ⟨by omega, h2, h3, by omega, ?_, by intro h; omega⟩
  intro hc
  constructor
  · cases ha : (Flapping.run p (Flapping.init script) acts).alive with
    | true => rfl
    | false => have := (hm.deadClosed ha).2; omega
  · cases ho : (Flapping.run p (Flapping.init script) acts).isOpen with
    | false => rfl
    | true => have := hm.openEmpty ho; omega

/-- … and with the application reopening the transport itself at any time: every failure is
accounted for — reported, waiting, or (only then possible) found the capacity-1 channel full. -/
theorem c15_flapping_report_accounting (p : Policy) (script : List Flapping.Outcome) (acts : List Flapping.Act) :
    let s := Flapping.run p (Flapping.init script) acts
    s.failures = s.reports + s.chan + s.dropped ∧ s.chan ≤ 1 :=
  ⟨(Flapping.finv_run p (Flapping.finv_init script) acts).account, (Flapping.finv_run p (Flapping.finv_init script) acts).cap⟩

/-- The runner is alive whenever the transport is open and was (re)opened by the monitor: in every
reachable state (any script, any policy, any interleaving, application reopens included) such a
transport still has its runner, and the channel is empty — the next failure will be taken. -/
theorem c15_runner_alive_while_open (p : Policy) (script : List Flapping.Outcome) (acts : List Flapping.Act) :
    let s := Flapping.run p (Flapping.init script) acts
    s.isOpen = true → s.byMonitor = true → s.alive = true ∧ s.chan = 0 := by
  intro s ho hb
  have hf := Flapping.finv_run p (Flapping.finv_init script) acts
  exact ⟨hf.aliveOpen ho hb, hf.openEmpty ho hb⟩

/-- The excluded configuration: with `InitialWait > MaxWait` the first wait exceeds `MaxWait`. -/
theorem c15_waits_counterexample :
    ∃ w ∈ sleeps (handleClose (Base.policy ⟨3, 5, 2⟩) false [true]), w > (2 : Int) := by
  refine ⟨5, ?_, by decide⟩
  simp [handleClose, Base.policy, Base.onClosedUncleanly, attemptReopen, sleeps]

/-- Cut anywhere: for every list of well-formed frames (each at most `maxLength` bytes, each accepted
by `registry.Execute`) and every byte offset `k` at which the inbound stream is cut, the frames
delivered are exactly those wholly inside the first `k` bytes, and then the transport closes once:
with nil if the stream ended with EOF — also when the cut falls inside a size prefix or a frame body,
because that EOF reaches the read loop typed END_OF_FILE (the code's classification) — and with
the error if the read failed. -/
theorem c15_cut_anywhere (fs : List Bytes) (hlen : ∀ f ∈ fs, f.length ≤ Framed.maxLength)
    (hex : ∀ f ∈ fs, (registryExecuteEmpty f).isOk = true) (k : Nat) (hk : k ≤ (Framed.encode fs).length)
    (eofAfter : Bool) :
    Framed.readAll ((Framed.encode fs).take k) eofAfter =
      (Framed.wholeBefore fs k, if eofAfter then Cause.clean else Cause.dirty) := by
  obtain ⟨h1, h2⟩ := Framed.deframe_cut fs hlen k hk
  have hd := Framed.deliver_all_ok (fs.take (Framed.wholeBefore fs k))
    (fun f hf => hex f (List.mem_of_mem_take hf))
  have hl : (fs.take (Framed.wholeBefore fs k)).length = Framed.wholeBefore fs k := by
    rw [List.length_take]; exact Nat.min_eq_left (Framed.wholeBefore_le fs k)
  unfold Framed.readAll
  simp only [h1, hd, hl]
  simp [h2]
  cases eofAfter <;> simp

/-- A frame that `registry.Execute` rejects closes the transport with the error, after the frames before it. -/
theorem c15_garbage_frame_closes (good : List Bytes) (bad : Bytes) (rest : List Bytes)
    (hex : ∀ f ∈ good, (registryExecuteEmpty f).isOk = true) (hbad : (registryExecuteEmpty bad).isOk = false) :
    Framed.deliver (good ++ bad :: rest) = (good.length, false) := by
  rw [Framed.deliver_append good _ hex, Framed.deliver, if_neg (by simp [hbad]), Nat.zero_add]

/-! ### The NATS client transport (`FV.NatsClient`: nats_transport.go + fBaseTransport) -/

/-- No send on a closed channel: in every reachable state of the NATS client transport — any
history of Open / Close / IsOpen / Request, connection closed by the application, broker going
away and coming back, closes repeated, Close after a failed Close — `fBaseTransport.Close` has
never written to or closed an already closed `Closed()` channel (which would panic). -/
theorem c15_nats_no_send_on_closed_channel {s : NatsClient.Sys} (hr : NatsClient.Reachable s) : s.panicked = false :=
  (NatsClient.ninv_reachable hr).noPanic

/-- Exactly one cause per incarnation: the channel of the open incarnation carries nothing and is
open; every other incarnation's channel carries exactly one value (nil: the only cause this
transport publishes) and is closed. -/
theorem c15_nats_one_cause_per_incarnation {s : NatsClient.Sys} (hr : NatsClient.Reachable s) (k : Nat)
    (i : NatsClient.Inc) (hi : s.incs[k]? = some i) :
    (s.openAt k → i.sent = 0 ∧ i.chanClosed = false) ∧ (¬ s.openAt k → i.sent = 1 ∧ i.chanClosed = true) ∧ i.sent ≤ 1 := by
  have h := (NatsClient.ninv_reachable hr).each k i hi
  unfold NatsClient.Sys.openAt
  by_cases ho : s.sub = true ∧ k + 1 = s.incs.length
  · simp only [ho, and_self, if_true] at h; exact ⟨fun _ => h, fun hn => absurd ho hn, by omega⟩
  · simp only [ho, if_false] at h; exact ⟨fun hn => absurd hn ho, fun _ => h, by omega⟩

/-- A failed `Close` (Unsubscribe fails: connection closed for good) publishes nothing and changes
nothing; so does a `Close` of a closed transport (which returns nil: this transport's `Close` is
idempotent rather than NOT_OPEN). -/
theorem c15_nats_failed_close_publishes_nothing (s : NatsClient.Sys) :
    ((NatsClient.step s .close).2 ≠ .ok → (NatsClient.step s .close).1 = s) ∧
    (s.sub = false → NatsClient.step s .close = (s, .ok)) := by
  constructor
  · simp only [NatsClient.step]; split
    · simp
    · split <;> simp
  · intro h; simp [NatsClient.step, h]

/-- ALREADY_OPEN / NOT_OPEN are reported consistently: `Open` answers ALREADY_OPEN only on an open
(subscribed) transport and nil only on a closed one; `Request` answers NOT_OPEN exactly when
`IsOpen` is false. -/
theorem c15_nats_states_consistent (s : NatsClient.Sys) :
    ((NatsClient.step s .open).2 = .alreadyOpen → s.sub = true) ∧
    ((NatsClient.step s .open).2 = .ok → s.sub = false ∧ (NatsClient.step s .open).1.sub = true) ∧
    ((NatsClient.step s .request).2 = .notOpen ↔ s.isOpen = false) ∧
    (NatsClient.step s .isOpen).2 = .bool s.isOpen := by
  refine ⟨?_, ?_, ?_, rfl⟩
  -- `Open` tests the connection, then `sub`: each answer comes from one branch, and that branch's test decides `sub`
  · simp only [NatsClient.step]; split
    · simp
    · split
      · exact fun _ => ‹_›
      · simp
  · simp only [NatsClient.step]; split
    · simp
    · split
      · simp
      · exact fun _ => ⟨by simpa using ‹¬ s.sub = true›, rfl⟩
  · simp only [NatsClient.step]; cases s.isOpen <;> simp

/-- Reopen works after a clean close: on a connected connection, `Close` of an open transport
followed by `Open` succeeds and starts a new incarnation — any number of times. -/
theorem c15_nats_reopen_again {s : NatsClient.Sys} (hr : NatsClient.Reachable s) (hc : s.conn = .connected)
    (hs : s.sub = true) :
    (NatsClient.step s .close).2 = .ok ∧
    (NatsClient.step (NatsClient.step s .close).1 .open).2 = .ok ∧
    (NatsClient.step (NatsClient.step s .close).1 .open).1.incs.length = s.incs.length + 1 := by
  obtain ⟨n, hl, e⟩ := NatsClient.baseClose_open (NatsClient.ninv_reachable hr) hs
  have h1 : NatsClient.step s .close = ({ s with sub := false, incs := List.replicate (n + 1) ⟨1, true⟩ }, .ok) := by
    simp only [NatsClient.step, hs, e]; simp [hc]
  rw [h1]
  simp [NatsClient.step, hc, hl]

/-! Non-vacuity: the hypotheses are met by non-trivial reachable states. -/

/-- two failures in a row with a reopen in between, on the repaired code: both detected -/
example : (run (init true) [.invoke .open, .callStep 0 true, .read 0 .err, .loopStep 0, .loopStep 0, .loopStep 0,
    .invoke .open, .callStep 1 true, .read 1 .err, .loopStep 1, .loopStep 1, .loopStep 1]).map
    (fun s => (s.isOpen, s.incs.map Inc.chan, s.incs.map Inc.loop)) =
    some (false, [[.dirty], [.dirty]], [.done, .done]) := by decide

/-- a reachable state with a closer holding the mutex and another call waiting -/
example : ∃ s, Reachable s ∧ s.mu = some (.call 1) ∧ s.calls[2]? = some ⟨.isOpen, .start⟩ :=
  ⟨_, ⟨[.invoke .open, .callStep 0 true, .invoke .close, .callStep 1 true, .invoke .isOpen], rfl⟩, by decide, by decide⟩

/-- a reachable state in which a failing loop of the open incarnation is at the select -/
example : ∃ s, Reachable s ∧ s.openAt 1 ∧ s.loopPc 1 = some (.onerror .eof) :=
  ⟨_, ⟨[.invoke .open, .callStep 0 true, .invoke .close, .callStep 1 true, .callStep 1 true, .loopStep 0,
        .invoke .open, .callStep 2 true, .read 1 .eof], rfl⟩, by decide, by decide⟩

/-- a 2-byte frame then a cut inside the second frame's body: one frame delivered -/
example : Framed.deframe ((Framed.encode [[1, 2], [3, 4, 5]]).take 11) = ([[1, 2]], .cutBody) := by
  simp [Framed.encode, be32, Framed.deframe, rd32, Framed.maxLength]

/-- NATS client transport: open, connection closed for good, Close fails twice, nothing published -/
example : (NatsClient.run NatsClient.init [.open, .connClose, .close, .close]).incs = [⟨0, false⟩] ∧
    (NatsClient.run NatsClient.init [.open, .close, .open, .brokerDown, .close, .brokerUp, .open]).incs =
      [⟨1, true⟩, ⟨1, true⟩, ⟨0, false⟩] := by decide

/-- a flapping script: failure, two connections that die at once, a healthy one, a later failure, healed:
four failures, four reports, transport open by the monitor, runner alive -/
example : (fun s : Flapping.Sys => (s.failures, s.reports, s.chan, s.dropped, s.isOpen, s.byMonitor, s.alive))
    (Flapping.run (Base.policy ⟨3, 0, 0⟩) (Flapping.init [.flap, .flap, .healthy, .refused, .healthy])
      [.fail, .handle, .handle, .handle, .fail, .handle]) = (4, 4, 0, 0, true, true, true) := by decide

example : attempts (handleClose (Base.policy ⟨2, 1, 4⟩) false [false, false, true]) = 2 := by decide
example : sleeps (handleClose (Base.policy ⟨3, 1, 3⟩) false [false, false, true]) = [1, 2, 3] := by decide

/-- **Lock discipline behind the model's atomic steps** (registry, adapter lifecycle lock, framed reader):
conditions (N) and (L) of FV/Model/Locks.lean for these mutexes (tags: `FV.Generated.Locks.mutexTags`), decided by
the kernel on the facts regenerated from lib/go on every check (spelt out at `FV.C01.c01_lock_discipline`) — the
part of "Open, Close and IsOpen never deadlock" that is a property of the source text rather than of a schedule. -/
theorem c15_lock_discipline :
    FV.Locks.ok [1, 2, 3] FV.Generated.Locks.mutexTags FV.Generated.Locks.facts = true :=
  FV.Locks.ok_of_closed FV.Generated.Locks.facts_closed (by decide +kernel)

/-- **No lock-order cycle** among the mutexes of lib/go (all tags); the statement of
`FV.C06.c06_lock_order_acyclic`, spelt out there. -/
theorem c15_lock_order_acyclic :
    FV.Locks.acyclic [1, 2, 3, 4, 5, 6, 7, 8] FV.Generated.Locks.mutexTags FV.Generated.Locks.facts = true :=
  FV.Generated.Locks.lock_order_acyclic

/-- **Constructors return fresh values** (regenerated from lib/go on every check): no function named `New…` returns
(the address of) a package-level variable — a monitor obtained from `NewDefaultFTransportMonitor()` and customised
through its exported fields is this caller's own; the static half of `c15_monitors_independent`. -/
theorem c15_constructors_return_fresh_values : FV.Generated.Locks.sharedCtors = [] := by decide

/-- **Fields are written under their lock** (the adapter transport's lifecycle state): `writesGuarded`
(FV/Model/Locks.lean, "Guarded-by") for this property's locks, on the facts regenerated from lib/go on every
check (spelt out at `FV.C06.c06_fields_written_under_lock`). -/
theorem c15_fields_written_under_lock :
    FV.Locks.writesGuarded [2] FV.Generated.Locks.unguardedUnexpected = true := by decide +kernel

/-- **Locks held across calls are released by defer**: `releasedByDefer` (FV/Model/Locks.lean, "Panic safety of
critical sections") for this property's locks, on the facts regenerated from lib/go on every check (spelt out at
`FV.C06.c06_locks_released_by_defer`). -/
theorem c15_locks_released_by_defer :
    FV.Locks.releasedByDefer [2] FV.Generated.Locks.manualUnexpected = true := by decide +kernel

end FV.C15
