/-
C11: a constant value that fits its type (FV/Spec/ConstValue.lean) goes through the Go
generator's `generateConstantValue` (FV/Model/ConstValue.lean) without a panic.
-/
import FV.Spec.ConstValue
import FV.Proofs.CompileValid
namespace FV.Compile

/-- (Nothing about the compiler: for any fuelled predicate.) If every member of a list has a fuel
from which on `P` holds, one fuel serves them all. -/
theorem exists_bound {α : Type} {P : Nat → α → Prop} (l : List α)
    (h : ∀ a ∈ l, ∃ n, ∀ f, n ≤ f → P f a) : ∃ N, ∀ a ∈ l, ∀ f, N ≤ f → P f a := by
  induction l with
  | nil => exact ⟨0, nofun⟩
  | cons x xs ih =>
    obtain ⟨n1, h1⟩ := h x List.mem_cons_self
    obtain ⟨n2, h2⟩ := ih (fun a ha => h a (List.mem_cons_of_mem _ ha))
    refine ⟨max n1 n2, fun a ha f hf => ?_⟩
    rcases List.mem_cons.mp ha with rfl | ha
    · exact h1 f (Nat.le_trans (Nat.le_max_left ..) hf)
    · exact h2 a ha f (Nat.le_trans (Nat.le_max_right ..) hf)

/-- (Equally generic.) One more unit of fuel than `N`: the step from the recursive calls to the
call itself. -/
theorem bound_succ {P : Nat → Prop} (N : Nat) (h : ∀ m, N ≤ m → P (m + 1)) : ∃ n, ∀ fuel, n ≤ fuel → P fuel :=
  ⟨N + 1, fun fuel hf => match fuel, hf with
    | m + 1, hf => h m (Nat.le_of_succ_le_succ hf)⟩

theorem identContext_ok (ctx : Ctx) (id : Name) (h : IdentNames ctx id) : identContext ctx id = .ok () := by
  unfold IdentNames at h
  unfold identContext
  revert h
  -- the identifier has no (impossible), one, two, three, or more `.`-separated parts
  rcases splitOn '.' id with _ | ⟨a, _ | ⟨b, _ | ⟨c, _ | ⟨d, rest⟩⟩⟩⟩
  · exact False.elim
  · exact fun h => if_pos ((hasConst_iff ctx.self id).mpr h)
  · rintro (h | ⟨f, hl, hk⟩)
    · exact if_pos ((hasEnumValue_iff ctx.self a b).mpr h)
    · dsimp only
      split
      · rfl
      · rw [hl]; exact if_pos ((hasConst_iff f b).mpr hk)
  · rintro ⟨f, hl, en, hf, hc⟩
    dsimp only
    rw [hl]
    dsimp only
    rw [hf]
    exact if_pos (List.contains_iff_mem.mpr hc)
  · exact False.elim

/-- Of the literals only a string fits the base type `string`: the one type assertion
`generateConstantValue` makes on a base type. (Names are compared as strings, which is cheap;
deciding an equation between their `toList`s is not.) -/
theorem BaseFits.of_string {v : Val} (h : BaseFits "string".toList v) : ∃ s, v = .str s := by
  cases v with
  | str s => exact ⟨s, rfl⟩
  | bool _ | dbl => exact absurd (String.toList_inj.mp h) (by decide)
  | int _ =>
    obtain ⟨s, hs, he⟩ := List.mem_map.mp h
    cases String.toList_inj.mp he
    exact absurd hs (by decide)
  | ident _ | list _ | map _ => exact h.elim

/-- A value that fits its type goes through `generateConstantValue` without a panic: every
type assertion finds the dynamic type it asserts, every lookup finds its target. -/
theorem genConst_ok_of_fits (ctx : Ctx) {t : Ty} {v : Val} (h : Fits ctx t v) :
    ∃ n, ∀ fuel, n ≤ fuel → genConst ctx fuel t v = .ok () := by
  induction h with
  | ident hid => exact bound_succ 0 fun m _ => by rw [genConst]; exact identContext_ok ctx _ hid
  | @base t n v hu hb hf =>
    refine bound_succ 0 fun m _ => ?_
    unfold Underlies at hu
    have hc := List.contains_iff_mem.mpr hb
    by_cases hs : n = "string".toList
    · subst hs
      obtain ⟨s, rfl⟩ := hf.of_string
      simp only [genConst, hu, hc, if_true]
    · cases v with
      | ident _ => exact hf.elim
      | _ => simp only [genConst, hu, hc, if_true, hs, if_false]
  | @list t e vs hu _ ih | @set t e vs hu _ ih =>
    obtain ⟨N, hN⟩ := exists_bound (P := fun f v => genConst ctx f e v = .ok ()) vs ih
    refine bound_succ N fun m hm => ?_
    unfold Underlies at hu
    simp only [genConst, hu]
    exact firstErr_ok_iff.mpr fun v hv => hN v hv m hm
  | @map t k w kvs hu _ _ ihk ihw =>
    obtain ⟨N1, hN1⟩ := exists_bound (P := fun f (kv : Val × Val) => genConst ctx f k kv.1 = .ok ()) kvs ihk
    obtain ⟨N2, hN2⟩ := exists_bound (P := fun f (kv : Val × Val) => genConst ctx f w kv.2 = .ok ()) kvs ihw
    refine bound_succ (max N1 N2) fun m hm => ?_
    unfold Underlies at hu
    simp only [genConst, hu]
    exact firstErr_ok_iff.mpr fun kv hkv =>
      (CRes.bind_unit_ok_iff _ _).mpr ⟨hN1 kv hkv m (Nat.le_trans (Nat.le_max_left ..) hm), hN2 kv hkv m (Nat.le_trans (Nat.le_max_right ..) hm)⟩
  | @enum t n i hu hb hc he =>
    refine bound_succ 0 fun m _ => ?_
    unfold Underlies at hu
    simp only [genConst, hu, contains_false_of_not_mem hb, contains_false_of_not_mem hc, Bool.false_eq_true, if_false, he, if_true]
  | @struct t n s kvs hu hb hc he hfs hkeys _ ih =>
    -- one bound for all pairs of an entry and a field whose title matches the entry's key
    obtain ⟨N, hN⟩ := exists_bound (P := fun f (x : (Val × Val) × Field) =>
        (∃ key, (x.1.1 = .str key ∨ x.1.1 = .ident key) ∧ title x.2.name = title key) → genConst ctx f x.2.ty x.1.2 = .ok ())
      (kvs.flatMap fun kv => s.fields.map (kv, ·)) fun x hx => by
        obtain ⟨kv, hkv, hx⟩ := List.mem_flatMap.mp hx
        obtain ⟨fl, hfl, rfl⟩ := List.mem_map.mp hx
        by_cases hk : ∃ key, (kv.1 = .str key ∨ kv.1 = .ident key) ∧ title fl.name = title key
        · obtain ⟨key, h1, h2⟩ := hk
          obtain ⟨n, hn⟩ := ih kv hkv key h1 fl hfl h2
          exact ⟨n, fun f hf _ => hn f hf⟩
        · exact ⟨0, fun _ _ h => absurd h hk⟩
    refine bound_succ N fun m hm => ?_
    unfold Underlies at hu
    simp only [genConst, hu, contains_false_of_not_mem hb, contains_false_of_not_mem hc, Bool.false_eq_true, if_false, he, hfs]
    refine firstErr_ok_iff.mpr fun kv hkv => ?_
    obtain ⟨key, hkey⟩ := hkeys kv hkv
    have hks : keyToString kv.1 = .ok key := by rcases hkey with h1 | h1 <;> rw [h1] <;> rfl
    obtain ⟨nm, hnm⟩ := title_isOk key
    simp only [hks, CRes.bind_ok, hnm]
    refine firstErr_ok_iff.mpr fun fl hfl => ?_
    obtain ⟨fn, hfn⟩ := title_isOk fl.name
    simp only [hfn, CRes.bind_ok]
    split
    · rename_i hq
      exact hN (kv, fl) (List.mem_flatMap.mpr ⟨kv, hkv, List.mem_map_of_mem hfl⟩) m hm ⟨key, hkey, by rw [hfn, hnm, hq]⟩
    · rfl

end FV.Compile
