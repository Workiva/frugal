import FV.Model.Headers
import FV.Model.Registry0
import FV.Model.Receivers
import FV.Proofs.Bytes

namespace FV

theorem readPairs_no_panic (buf : Bytes) (i e : Int) (acc : Hdrs)
    (h0 : 0 ≤ i) (he : e ≤ buf.length) : ∀ p, readPairs buf i e acc ≠ .panic p := by
  fun_induction readPairs buf i e acc <;> intro p hp
  all_goals first
    | (cases hp; done)  -- an exit with an error or with the accumulator
    | exact slice_panic_elim ‹slice _ _ _ = .panic _› (by omega)  -- a slice: it lies inside `[i, e]` by the guard before it
    | (rename_i ih; exact ih (by omega) p hp)  -- the next pair

/-- `unmarshalHeadersFromFrame` never panics; a frame it accepts holds the size field and the bytes that announces. -/
theorem unmarshalHeadersFromFrame_spec (f : Bytes) : (unmarshalHeadersFromFrame f).Ensures fun _ =>
    4 ≤ f.length ∧ 0 ≤ toI32 (rd32 f) ∧ toI32 (rd32 f) ≤ (f.length : Int) - 4 := by
  -- a tree of guards whose negations are the bounds `readPairs_no_panic` asks for: walked with `ensures_ite`,
  -- like `unmarshalStream`; the receivers that only match on the result of an earlier one are walked by `split`
  unfold unmarshalHeadersFromFrame
  refine Res.ensures_ite (fun _ => trivial) fun _ => Res.ensures_ite (fun _ => trivial) fun _ => ?_
  cases h : readPairs f 4 (toI32 (rd32 f) + 4) [] with
  | panic p => exact readPairs_no_panic _ _ _ _ (by omega) (by omega) p h
  | err _ => trivial
  | ok _ => show _ ∧ _ ∧ _; omega

theorem headersFromFrame_no_panic (f : Bytes) : ∀ p, headersFromFrame f ≠ .panic p := by
  intro p
  unfold headersFromFrame
  split
  · intro h; cases h
  · split
    · exact (unmarshalHeadersFromFrame_spec _).ne_panic p
    · intro h; cases h

theorem unmarshalStream_no_panic (bs : Bytes) : ∀ p, unmarshalStream bs ≠ .panic p := by
  refine Res.Ensures.ne_panic (P := fun _ => True) ?_
  unfold unmarshalStream
  cases bs with
  | nil => trivial
  | cons ver r1 =>
    refine Res.ensures_ite (fun _ => trivial) fun _ => Res.ensures_ite (fun _ => trivial) fun _ =>
      Res.ensures_ite (fun _ => trivial) fun _ => Res.ensures_ite (fun _ => trivial) fun _ => ?_
    cases h : readPairs ((r1.drop 4).take (toI32 (rd32 r1)).toNat) 0 (toI32 (rd32 r1)) [] with
    | panic p =>
      exact absurd h (readPairs_no_panic _ _ _ _ (Int.le_refl 0) (by simp only [List.length_take]; omega) p)
    | _ => trivial

theorem frameOpId_no_panic (f : Bytes) : ∀ p, frameOpId f ≠ .panic p := by
  intro p
  unfold frameOpId
  split
  · split <;> (intro h; cases h)
  · intro h; cases h
  · rename_i q hq; exact absurd hq (headersFromFrame_no_panic _ q)

theorem registryExecuteEmpty_no_panic (f : Bytes) : ∀ p, registryExecuteEmpty f ≠ .panic p := by
  intro p
  unfold registryExecuteEmpty
  split
  · intro h; cases h
  · intro h; cases h
  · rename_i q hq; exact absurd hq (frameOpId_no_panic _ q)

theorem readRequestHeaderClass_no_panic (f : Bytes) : ∀ p, readRequestHeaderClass f ≠ .panic p := by
  intro p
  unfold readRequestHeaderClass
  split
  · split <;> (intro h; cases h)
  · intro h; cases h
  · rename_i q hq; exact absurd hq (unmarshalStream_no_panic _ q)

/-- No received message stops the NATS subscriber worker. -/
theorem Worker.recv_alive (w : Worker) (m : Bytes) : (w.recv m).alive = w.alive := by
  unfold Worker.recv
  split
  · rfl
  · split <;> rfl

theorem Worker.recvAll_alive (w : Worker) (ms : List Bytes) : (w.recvAll ms).alive = w.alive := by
  induction ms generalizing w with
  | nil => rfl
  | cons m t ih => exact (ih (w.recv m)).trans (w.recv_alive m)

theorem marshalPairs_length (hs : Hdrs) : (marshalPairs hs).length = calcSize hs := by
  induction hs with
  | nil => rfl
  | cons kv t ih => obtain ⟨k, v⟩ := kv; simp [marshalPairs, calcSize, ih, be32_length]; omega

theorem marshal_length (hs : Hdrs) : (marshal hs).length = 5 + calcSize hs := by
  simp [marshal, be32_length, marshalPairs_length]; omega

theorem marshal_append (hs : Hdrs) (p : Bytes) :
    marshal hs ++ p = 0 :: (be32 (calcSize hs) ++ (marshalPairs hs ++ p)) := by
  simp only [marshal, List.cons_append, List.append_assoc]

/-- A length-prefixed field can be read off the front of a byte string in one way only. -/
theorem prefixed_inj {x x' r r' : Bytes} (hx : x.length < 4294967296) (hx' : x'.length < 4294967296)
    (h : be32 x.length ++ (x ++ r) = be32 x'.length ++ (x' ++ r')) : x = x' ∧ r = r' := by
  have el : x.length = x'.length := by
    have := congrArg rd32 h
    rwa [rd32_be32 _ _ hx, rd32_be32 _ _ hx'] at this
  have := congrArg (List.drop 4) h
  rw [List.drop_left' (be32_length _), List.drop_left' (be32_length _)] at this
  exact List.append_inj this el

/-- A length-prefixed field standing at offset `i = |pre|`: the two slices `readPairs` takes of it. -/
theorem slice_field (pre x rest : Bytes) (i : Int) (hi : i = pre.length) :
    slice (pre ++ (be32 x.length ++ (x ++ rest))) i (i + 4) = .ok (be32 x.length) ∧
    slice (pre ++ (be32 x.length ++ (x ++ rest))) (i + 4) (i + 4 + x.length) = .ok x :=
  ⟨slice_at _ pre _ _ _ _ rfl hi rfl,
    slice_at _ (pre ++ be32 x.length) x rest _ _ (List.append_assoc ..).symm (by rw [hi]; simp [be32_length]) rfl⟩

/-- The five guards of one iteration of `readPairs` pass when a whole pair with sizes `a`, `b` lies before `e`. -/
theorem readPairs_guards (i e a b : Int) (ha : 0 ≤ a) (hb : 0 ≤ b) (he : i + 4 + a + 4 + b ≤ e) :
    i < e ∧ ¬ e - i < 4 ∧ ¬ (a < 0 ∨ a > e - (i + 4)) ∧ ¬ e - (i + 4 + a) < 4 ∧
      ¬ (b < 0 ∨ b > e - (i + 4 + a + 4)) := by omega

/-- One iteration of `readPairs` over a well-formed pair standing at offset `i = |pre|`. -/
theorem readPairs_cons (pre k v rest : Bytes) (i e : Int) (acc : Hdrs) (hi : i = pre.length)
    (hk : k.length < 2147483648) (hv : v.length < 2147483648) (he : i + 4 + k.length + 4 + v.length ≤ e) :
    readPairs (pre ++ (be32 k.length ++ (k ++ (be32 v.length ++ (v ++ rest))))) i e acc =
      readPairs (pre ++ (be32 k.length ++ (k ++ (be32 v.length ++ (v ++ rest)))))
        (i + 4 + k.length + 4 + v.length) e (acc.set k v) := by
  obtain ⟨s1, s2⟩ := slice_field pre k (be32 v.length ++ (v ++ rest)) i hi
  obtain ⟨s3, s4⟩ := slice_field (pre ++ (be32 k.length ++ k)) v rest (i + 4 + k.length)
    (by rw [hi]; simp [be32_length, Int.add_assoc])
  simp only [List.append_assoc] at s3 s4
  obtain ⟨g1, g2, g3, g4, g5⟩ :=
    readPairs_guards i e k.length v.length (Int.natCast_nonneg _) (Int.natCast_nonneg _) he
  have hk' := toI32_rd32_be32 k.length [] hk
  have hv' := toI32_rd32_be32 v.length [] hv
  rw [List.append_nil] at hk' hv'
  rw [readPairs, dif_pos g1, dif_neg g2]
  simp only [s1, hk']
  rw [dif_neg g3]
  simp only [s2]
  rw [dif_neg g4]
  simp only [s3, hv']
  rw [dif_neg g5]
  simp only [s4]

/-- Reading what `marshalPairs` wrote, wherever it stands in the buffer: the pairs are merged into the
accumulator in wire order. -/
theorem readPairs_marshal (hs : Hdrs) : ∀ (pre post : Bytes) (i e : Int) (acc : Hdrs),
    i = pre.length → e = i + calcSize hs → e < 2147483648 →
    readPairs (pre ++ (marshalPairs hs ++ post)) i e acc = .ok (acc.setAll hs) := by
  induction hs with
  | nil =>
    intro pre post i e acc hi he _
    rw [readPairs, dif_neg (by simp [he, calcSize])]; rfl
  | cons kv t ih =>
    obtain ⟨k, v⟩ := kv
    intro pre post i e acc hi he h31
    simp only [calcSize] at he
    simp only [marshalPairs, List.append_assoc]
    rw [readPairs_cons pre k v _ i e acc hi (by omega) (by omega) (by omega)]
    have := ih (pre ++ be32 k.length ++ k ++ be32 v.length ++ v) post (i + 4 + k.length + 4 + v.length) e
      (acc.set k v) (by rw [hi]; simp [be32_length, Int.add_assoc]) (by omega) h31
    simp only [List.append_assoc] at this
    exact this

theorem Hdrs.set_fresh (acc : Hdrs) (k v : Bytes) (h : k ∉ acc.keys) : acc.set k v = acc ++ [(k, v)] := by
  induction acc with
  | nil => rfl
  | cons a t ih =>
    obtain ⟨k', v'⟩ := a
    simp only [Hdrs.keys, List.map_cons, List.mem_cons, not_or] at h
    have hne : ¬ (k' = k) := fun e => h.1 e.symm
    simp only [Hdrs.set, hne, if_false, List.cons_append]
    rw [ih (by simpa [Hdrs.keys] using h.2)]

theorem Hdrs.setAll_fresh (hs : Hdrs) : ∀ acc : Hdrs, (acc ++ hs).keys.Nodup → acc.setAll hs = acc ++ hs := by
  induction hs with
  | nil => intro acc _; simp [Hdrs.setAll]
  | cons kv t ih =>
    obtain ⟨k, v⟩ := kv
    intro acc hnd
    have hk : k ∉ acc.keys := by
      simp only [Hdrs.keys, List.map_append, List.map_cons] at hnd
      have := List.nodup_append.mp hnd
      intro hmem
      exact this.2.2 k hmem k (by simp) rfl
    show (acc.set k v).setAll t = _
    rw [Hdrs.set_fresh acc k v hk, ih (acc ++ [(k, v)]) (by simpa using hnd)]
    simp

theorem Hdrs.setAll_nil (hs : Hdrs) (h : hs.keys.Nodup) : Hdrs.setAll [] hs = hs := by
  have := Hdrs.setAll_fresh hs [] (by simpa using h)
  simpa using this

/-! ### The readers on a v0 block `[0][n][body][p]` with `|body| = n` -/

theorem unmarshalStream_v0 (n : Nat) (body p : Bytes) (hn : body.length = n) (h31 : n < 2147483648) :
    unmarshalStream (0 :: (be32 n ++ (body ++ p))) = (match readPairs body 0 n [] with
      | .ok h => .ok (h, p) | .err e => .err e | .panic q => .panic q) := by
  subst hn
  unfold unmarshalStream
  simp only [ne_eq, not_true_eq_false, if_false, toI32_rd32_be32 _ _ h31, List.drop_left' (be32_length _),
    Int.toNat_natCast, List.take_left, List.drop_left]
  rw [if_neg (by simp only [List.length_append, be32_length]; omega), if_neg (by omega),
    if_neg (by simp only [List.length_append]; omega)]
  rfl

theorem unmarshalHeadersFromFrame_v0 (n : Nat) (body p : Bytes) (hn : body.length = n) (h31 : n < 2147483648) :
    unmarshalHeadersFromFrame (be32 n ++ (body ++ p)) = readPairs (be32 n ++ (body ++ p)) 4 (n + 4) [] := by
  unfold unmarshalHeadersFromFrame
  simp only [toI32_rd32_be32 _ _ h31]
  rw [if_neg (by simp only [List.length_append, be32_length]; omega),
    if_neg (by simp only [List.length_append, be32_length]; omega)]

theorem headersFromFrame_v0 (r : Bytes) : headersFromFrame (0 :: r) = unmarshalHeadersFromFrame r := by
  simp only [headersFromFrame, if_true]

theorem addHeadersToFrame_v0 (a b c d : UInt8) (n : Nat) (body p : Bytes) (adds existing : Hdrs)
    (hsz : toI32 (rd32 body) = n) (hd : body.drop (n + 4) = p) (hl : n + 4 ≤ body.length)
    (hex : unmarshalHeadersFromFrame body = .ok existing) :
    addHeadersToFrame (a :: b :: c :: d :: 0 :: body) adds =
      .ok (be32 ((marshal (existing.setAll adds)).length + p.length) ++ marshal (existing.setAll adds) ++ p) := by
  unfold addHeadersToFrame
  simp only [if_true, hex, hsz]
  rw [sliceFrom_ok _ _ (by omega) (by simp only [List.length_cons]; omega)]
  have e1 : ((9 : Int) + (n : Int)).toNat = (n + 4) + 5 := by omega
  simp only [e1, List.drop_succ_cons, hd]

/-- The stream reader on what `marshal` wrote (any names, repeated ones merged as the reader's map does). -/
theorem unmarshalStream_marshal (hs : Hdrs) (p : Bytes) (h : 5 + calcSize hs < 2147483648) :
    unmarshalStream (marshal hs ++ p) = .ok (Hdrs.setAll [] hs, p) := by
  have := readPairs_marshal hs [] [] 0 (calcSize hs) [] rfl (by omega) (by omega)
  rw [List.nil_append, List.append_nil] at this
  rw [marshal_append, unmarshalStream_v0 _ _ _ (marshalPairs_length hs) (by omega), this]

theorem unmarshalHeadersFromFrame_marshal (hs : Hdrs) (p : Bytes) (h : 5 + calcSize hs < 2147483648) :
    unmarshalHeadersFromFrame (be32 (calcSize hs) ++ (marshalPairs hs ++ p)) = .ok (Hdrs.setAll [] hs) := by
  rw [unmarshalHeadersFromFrame_v0 _ _ _ (marshalPairs_length hs) (by omega)]
  exact readPairs_marshal hs (be32 (calcSize hs)) p _ _ [] rfl (Int.add_comm ..) (by omega)

theorem Hdrs.get?_cons_self (k v : Bytes) (t : Hdrs) : Hdrs.get? ((k, v) :: t) k = some v := if_pos rfl

theorem Hdrs.get?_cons_ne {k' k : Bytes} (v : Bytes) (t : Hdrs) (h : k' ≠ k) :
    Hdrs.get? ((k', v) :: t) k = t.get? k := if_neg h

theorem Hdrs.get?_set_same (h : Hdrs) (k v : Bytes) : (h.set k v).get? k = some v := by
  induction h with
  | nil => simp [Hdrs.set, Hdrs.get?]
  | cons a t ih =>
    obtain ⟨k', v'⟩ := a
    by_cases e : k' = k
    · simp [Hdrs.set, Hdrs.get?, e]
    · simp [Hdrs.set, Hdrs.get?, e, ih]

theorem Hdrs.get?_set_other (h : Hdrs) (k v k2 : Bytes) (hne : k ≠ k2) : (h.set k v).get? k2 = h.get? k2 := by
  induction h with
  | nil => simp [Hdrs.set, Hdrs.get?, hne]
  | cons a t ih =>
    obtain ⟨k', v'⟩ := a
    by_cases e : k' = k
    · subst e; simp [Hdrs.set, Hdrs.get?, hne]
    · by_cases e2 : k' = k2
      · subst e2; simp [Hdrs.set, Hdrs.get?, e]
      · simp [Hdrs.set, Hdrs.get?, e, e2, ih]

theorem Hdrs.get?_eq_some_iff (h : Hdrs) (hnd : h.keys.Nodup) (k v : Bytes) :
    h.get? k = some v ↔ (k, v) ∈ h := by
  induction h with
  | nil => simp [Hdrs.get?]
  | cons a t ih =>
    obtain ⟨k', v'⟩ := a
    simp only [Hdrs.keys, List.map_cons, List.nodup_cons] at hnd
    by_cases e : k' = k
    · subst e
      have : (k', v) ∉ t := fun hm => hnd.1 (List.mem_map_of_mem (f := Prod.fst) hm)
      simp [Hdrs.get?, this, eq_comm]
    · simp [Hdrs.get?, e, Ne.symm e, ih hnd.2]

/-- Two iteration orders of the same map (permutations with distinct names) look up equally. -/
theorem Hdrs.get?_perm (h h' : Hdrs) (hp : h.Perm h') (hnd : h.keys.Nodup) (k : Bytes) :
    h.get? k = h'.get? k := by
  have hnd' : h'.keys.Nodup := (hp.map Prod.fst).nodup_iff.mp hnd
  refine Option.ext fun v => ?_
  rw [Hdrs.get?_eq_some_iff h hnd, Hdrs.get?_eq_some_iff h' hnd', hp.mem_iff]

theorem digitsVal_append (l1 l2 : Bytes) (a : Nat) :
    digitsVal (l1 ++ l2) a = (digitsVal l1 a).bind (fun x => digitsVal l2 x) := by
  induction l1 generalizing a with
  | nil => simp [digitsVal]
  | cons c t ih =>
    simp only [List.cons_append, digitsVal]
    split
    · exact ih _
    · rfl

theorem digit_toNat (d : Nat) (h : d < 10) : (UInt8.ofNat (48 + d)).toNat = 48 + d :=
  (UInt8.toNat_ofNat' ..).trans (Nat.mod_eq_of_lt (by omega))

theorem digitsVal_digit (d a : Nat) (h : d < 10) : digitsVal [UInt8.ofNat (48 + d)] a = some (a * 10 + d) := by
  simp only [digitsVal, digit_toNat d h, Nat.add_sub_cancel_left]
  exact if_pos ⟨Nat.le_add_right 48 d, by omega⟩

/-- A rendering of numbers that follows the most-significant-first recursion is read back by `digitsVal`. -/
theorem digitsVal_of_msf {f : Nat → Bytes}
    (hf : ∀ n, f n = if n < 10 then [UInt8.ofNat (48 + n)] else f (n / 10) ++ [UInt8.ofNat (48 + n % 10)]) (n : Nat) :
    digitsVal (f n) 0 = some n := by
  induction n using Nat.strongRecOn with
  | _ n ih =>
    rw [hf]
    by_cases h : n < 10
    · rw [if_pos h, digitsVal_digit n 0 h, Nat.zero_mul, Nat.zero_add]
    · rw [if_neg h, digitsVal_append, ih (n / 10) (by omega), Option.bind_some,
        digitsVal_digit _ _ (Nat.mod_lt _ (by omega)), Nat.div_add_mod']

end FV

namespace FV.C04

/-- The header block fits int32 arithmetic. -/
def Small (hs : Hdrs) : Prop := 5 + calcSize hs < 2147483648

end FV.C04
