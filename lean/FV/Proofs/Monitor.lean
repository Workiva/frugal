/-
The monitor runner's trace under `BaseFTransportMonitor`'s policy (C15), by induction on the scripted outcomes of
`Open`: the attempts of one outage stay within the budget, every wait within `MaxWait`, an outage with fewer
failures than the budget ends reopened with the runner still running.
-/
import FV.Model.Monitor
namespace FV.Monitor

theorem attempts_append (a b : List MEv) : attempts (a ++ b) = attempts a + attempts b := by
  simp [attempts, List.filter_append]

theorem sleeps_append (a b : List MEv) : sleeps (a ++ b) = sleeps a ++ sleeps b := by
  induction a with
  | nil => rfl
  | cons x t ih => cases x <;> simp [sleeps, ih]

theorem onReopenFailed_wait_le (m : Base) (n : Nat) (w : Int) :
    (m.onReopenFailed n w).1 = true → (m.onReopenFailed n w).2 ≤ m.maxWait := by
  unfold Base.onReopenFailed
  split
  · simp
  · intro _; simp only; split <;> omega

/-- `BaseFTransportMonitor` goes on exactly while the attempts made are below `MaxReopenAttempts`. -/
theorem onReopenFailed_continues (m : Base) (n : Nat) (w : Int) :
    (m.policy.onReopenFailed n w).1 = decide (n < m.maxReopenAttempts) := by
  simp only [Base.policy, Base.onReopenFailed]
  split <;> simp <;> omega

theorem handleClose_base (m : Base) (outs : List Bool) :
    handleClose m.policy false outs = .closedUncleanly (decide (m.maxReopenAttempts > 0)) m.initialWait ::
      (if m.maxReopenAttempts > 0 then attemptReopen m.policy outs m.initialWait 0 else [.terminated]) := by
  simp [handleClose, Base.policy, Base.onClosedUncleanly]

theorem attemptReopen_attempts (m : Base) (outs : List Bool) (w : Int) (prev : Nat) (h : prev < m.maxReopenAttempts) :
    attempts (attemptReopen m.policy outs w prev) ≤ m.maxReopenAttempts - prev := by
  induction outs generalizing w prev with
  | nil => simp [attemptReopen, attempts]
  | cons o rest ih =>
    cases o
    · rw [attemptReopen, attempts_append, onReopenFailed_continues]
      by_cases hc : prev + 1 < m.maxReopenAttempts
      · have := ih (m.policy.onReopenFailed (prev + 1) w).2 (prev + 1) hc
        simp [hc, attempts] at this ⊢; omega
      · simp [hc, attempts]; omega
    · simp [attemptReopen, attempts]; omega

theorem attemptReopen_sleeps (m : Base) (outs : List Bool) (w : Int) (prev : Nat) (hw : w ≤ m.maxWait) :
    ∀ x ∈ sleeps (attemptReopen m.policy outs w prev), x ≤ m.maxWait := by
  induction outs generalizing w prev with
  | nil => simp [attemptReopen, sleeps]; exact hw
  | cons o rest ih =>
    cases o
    · rw [attemptReopen, sleeps_append]
      intro x hx
      rw [List.mem_append] at hx
      rcases hx with hx | hx
      · simp [sleeps] at hx; omega
      · split at hx
        · rename_i hc
          exact ih _ _ (onReopenFailed_wait_le m _ _ hc) x hx
        · simp [sleeps] at hx
    · simp [attemptReopen, sleeps]; exact hw

theorem attemptReopen_until_success (m : Base) (k : Nat) (rest : List Bool) (w : Int) (prev : Nat)
    (h : prev + k < m.maxReopenAttempts) :
    let t := attemptReopen m.policy (outageOuts k rest) w prev
    t.count .reopenSucceeded = 1 ∧ .terminated ∉ t ∧ .pending ∉ t ∧ attempts t = k + 1 := by
  induction k generalizing w prev with
  | zero => simp [outageOuts, attemptReopen, attempts]
  | succ k ih =>
    have e : outageOuts (k + 1) rest = false :: outageOuts k rest := by
      simp [outageOuts, List.replicate_succ]
    simp only [e, attemptReopen, onReopenFailed_continues, show prev + 1 < m.maxReopenAttempts by omega, decide_true, if_true]
    obtain ⟨a, b, c, d⟩ := ih (m.policy.onReopenFailed (prev + 1) w).2 (prev + 1) (by omega)
    refine ⟨?_, ?_, ?_, ?_⟩
    · rw [List.count_append]; simp [a]
    · simp [b]
    · simp [c]
    · rw [attempts_append, d]; simp [attempts]; omega

theorem handleClose_reopens (m : Base) (k : Nat) (rest : List Bool) (h : k < m.maxReopenAttempts) :
    let t := handleClose m.policy false (outageOuts k rest)
    t.count .reopenSucceeded = 1 ∧ endsRunner t = false ∧ attempts t = k + 1 := by
  obtain ⟨a, b, c, d⟩ := attemptReopen_until_success m k rest m.initialWait 0 (by omega)
  simp only [handleClose_base, show m.maxReopenAttempts > 0 by omega, if_true]
  refine ⟨?_, ?_, ?_⟩
  · simp [a]
  · simp [endsRunner, b, c]
  · simp only [attempts, List.filter_cons] at d ⊢; simpa using d

theorem multi_independent (ms : List Inst) (as : List MAct) (i : Nat) (m : Inst) (hm : ms[i]? = some m) :
    (multiRun ms as).filterMap (fun e => if e.1 = i then some e.2 else none) = singleRun m as i := by
  induction as generalizing ms m with
  | nil => simp [multiRun, singleRun]
  | cons a as ih =>
    have hlt := (List.getElem?_eq_some_iff.mp hm).1
    cases a with
    | outage t k =>
      simp only [multiRun, multiStep, singleRun]
      by_cases hti : t = i
      · subst hti
        simp only [hm, if_true, List.filterMap_cons]
        exact congrArg _ (ih _ _ (by simp [hlt]))
      · simp only [hti, if_false]
        cases ms[t]? with
        | none => exact ih ms m hm
        | some mt =>
          simp only [List.filterMap_cons, hti, if_false]
          exact ih _ m (by rw [List.getElem?_set_ne hti]; exact hm)
    | setPolicy t b =>
      simp only [multiRun, multiStep, singleRun]
      by_cases hti : t = i
      · subst hti
        simp only [hm, if_true]
        exact ih _ _ (by simp [hlt])
      · simp only [hti, if_false]
        cases ms[t]? with
        | none => exact ih ms m hm
        | some mt => exact ih _ m (by rw [List.getElem?_set_ne hti]; exact hm)
end FV.Monitor
