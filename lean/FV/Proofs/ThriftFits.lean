/- The hypotheses of the byte-level round trips (BinFits / CmpOK / cmpBalanced on the write calls) follow
from a value-level predicate: every call sequence the emitted Write produces for a well-typed value whose
integers, sizes and field ids fit is one the binary and the compact protocol round-trip. -/
import FV.Proofs.CompactProtocol
import FV.Proofs.Thrift
namespace FV.Thrift

/-- Value-level counterpart of `BinFits`/`CmpOK`: integers within their declared widths, IEEE bits
within 64 bits, string lengths and container sizes within `MaxMessageSize`, declared field ids
within int16 — what the emitted Go types can hold and the default configuration accepts. -/
def Fits (d : Defs) : Nat → Ty → Val → Prop
  | 0, _, _ => False
  | n + 1, t, v =>
    match resolve d t, v with
    | .bool, .bool _ => True
    | .byte, .int k => -128 ≤ k ∧ k < 128
    | .i16, .int k => -32768 ≤ k ∧ k < 32768
    | .i32, .int k => -2147483648 ≤ k ∧ k < 2147483648
    | .i64, .int k => -9223372036854775808 ≤ k ∧ k < 9223372036854775808
    | .enum _, .int k => -2147483648 ≤ k ∧ k < 2147483648
    | .double, .dbl b => b < 18446744073709551616
    | .string, .bytes b => b.length ≤ maxMessageSize
    | .binary, .bytes b => b.length ≤ maxMessageSize
    | .list a, .list vs => vs.length ≤ maxMessageSize ∧ ∀ x ∈ vs, Fits d n a x
    | .set a, .list vs => vs.length ≤ maxMessageSize ∧ ∀ x ∈ vs, Fits d n a x
    | .map kt vt, .map kvs => kvs.length ≤ maxMessageSize ∧ ∀ kv ∈ kvs, Fits d n kt kv.1 ∧ Fits d n vt kv.2
    | .struct nm, .struct fs =>
      ∃ sd, lookupStruct d nm = some sd ∧ (∀ f ∈ sd.fields, -32768 ≤ f.id ∧ f.id < 32768) ∧
        (∀ f ∈ sd.fields, ∀ x, lookupVal fs f.id = some x → Fits d n f.ty x)
    | _, _ => False

/-- A call sequence that can stand anywhere in a stream the byte protocols round-trip. -/
structure Chunk (es : List Event) : Prop where
  bin : ∀ e ∈ es, BinFits e
  ok : ∀ tail, cmpOKb (es ++ tail) = cmpOKb tail
  bal : ∀ k tail, cmpBalanced k (es ++ tail) = cmpBalanced k tail

theorem Chunk.nil : Chunk [] := ⟨(by intro e h; cases h), fun _ => rfl, fun _ _ => rfl⟩

theorem Chunk.append {a b : List Event} (ha : Chunk a) (hb : Chunk b) : Chunk (a ++ b) := by
  refine ⟨List.forall_mem_append.mpr ⟨ha.bin, hb.bin⟩, ?_, ?_⟩
  · intro tail; rw [List.append_assoc, ha.ok, hb.ok]
  · intro k tail; rw [List.append_assoc, ha.bal, hb.bal]

theorem Chunk.flatten {α : Type} : ∀ {l : List α} {cs : List (List Event)},
    All2 (fun _ c => Chunk c) l cs → Chunk cs.flatten := by
  intro l cs h
  induction h with
  | nil => exact Chunk.nil
  | cons hx _ ih => exact Chunk.append hx ih

/-- A call that fits and is neither the header of a bool field (whose value call belongs to it) nor a
struct bracket. -/
theorem Chunk.call (e : Event) (hb : BinFits e) (hc : CmpFits e)
    (h1 : ∀ nm id, e ≠ .fb nm 2 id) (h2 : ∀ nm, e ≠ .sb nm) (h3 : e ≠ .se) : Chunk [e] :=
  ⟨List.forall_mem_singleton.mpr hb,
   fun tail => cmpOKb_cons_fit e tail hc h1,
   fun k tail => cmpBalanced_cons_other k e tail h2 h3⟩

/-- `Chunk.call` under the stronger hypothesis that `e` is no field header at all. -/
theorem Chunk.single (e : Event) (hb : BinFits e) (hc : CmpFits e)
    (h1 : ∀ nm tt id, e ≠ .fb nm tt id) (h2 : ∀ nm, e ≠ .sb nm) (h3 : e ≠ .se) : Chunk [e] :=
  Chunk.call e hb hc (fun nm id => h1 nm 2 id) h2 h3

theorem Chunk.plain {e : Event} (hb : BinFits e) (hc : CmpFits e)
    (h : callOf e ≠ .fieldBegin ∧ callOf e ≠ .structBegin ∧ callOf e ≠ .structEnd) : Chunk [e] :=
  Chunk.call e hb hc (by rintro _ _ rfl; exact h.1 rfl) (by rintro _ rfl; exact h.2.1 rfl)
    (by rintro rfl; exact h.2.2 rfl)

/-- The call for a value of base type, when it fits (the two protocols ask the same of such a call). -/
theorem Scalar.chunk {rt : Ty} {v : Val} {e : Event} (h : Scalar rt v e) (hb : BinFits e) : Chunk [e] :=
  Chunk.plain hb (by cases h <;> exact hb) (by cases h <;> exact ⟨nofun, nofun, nofun⟩)

/-- A wire type the emitted code announces: one the compact protocol carries back, within a byte. -/
theorem wireOf_fits (d : Defs) (t : Ty) : cmpTT (wireOf d t) ∧ wireOf d t < 256 := by
  unfold wireOf; split <;> decide

theorem Chunk.field (nm : String) (tt : Nat) (id : Int) (body : List Event) (hid : -32768 ≤ id ∧ id < 32768)
    (htt : cmpTT tt ∧ tt < 256) (h0 : tt ≠ 0) (hbody : Chunk body)
    (hbool : tt = 2 → ∃ b, body = [.bool b]) : Chunk ([.fb nm tt id] ++ body ++ [.fe]) := by
  -- nibble 0 is the stop marker: it does not carry a real type back
  have hc0 : ctype tt ≠ 0 := fun h => h0 (by have := htt.1; rw [cmpTT, h] at this; cases this; rfl)
  have hfb : BinFits (.fb nm tt id) := ⟨by omega, htt.2, hid.1, hid.2⟩
  refine Chunk.append ?_ (Chunk.plain (e := .fe) trivial trivial ⟨nofun, nofun, nofun⟩)
  by_cases h2 : tt = 2
  · -- a bool field: the compact protocol takes the header and the value together
    obtain ⟨b, rfl⟩ := hbool h2
    subst h2
    refine ⟨List.forall_mem_cons.mpr ⟨hfb, hbody.bin⟩, fun tail => ?_, fun k tail => ?_⟩
    · simp only [List.cons_append, List.nil_append, cmpOKb, hid, decide_true, Bool.true_and, and_self]
    · exact (cmpBalanced_cons_other k (.fb nm 2 id) _ nofun nofun).trans (hbody.bal k tail)
  · exact (Chunk.call _ hfb ⟨htt.1, hc0, hid.1, hid.2⟩ (by rintro _ _ ⟨⟩; exact h2 rfl) nofun nofun).append hbody

theorem Chunk.struct (nm : String) (body : List Event) (hbody : Chunk body) :
    Chunk ([.sb nm] ++ body ++ [.fs, .se]) := by
  refine ⟨?_, fun tail => ?_, fun k tail => ?_⟩
  · exact List.forall_mem_cons.mpr ⟨trivial, List.forall_mem_append.mpr
      ⟨hbody.bin, List.forall_mem_cons.mpr ⟨trivial, List.forall_mem_singleton.mpr trivial⟩⟩⟩
  · simp only [List.cons_append, List.nil_append, List.append_assoc]
    rw [cmpOKb_cons_fit (.sb nm) _ trivial nofun, hbody.ok, cmpOKb_cons_fit .fs _ trivial nofun,
      cmpOKb_cons_fit .se _ trivial nofun]
  · -- the begin opens a level, the end closes it; the body and the stop leave it
    simp only [List.cons_append, List.nil_append, List.append_assoc]
    rw [cmpBalanced, hbody.bal, cmpBalanced_cons_other (k + 1) .fs _ nofun nofun, cmpBalanced]


theorem Chunk.seq {rt a : Ty} {bg : Nat → Nat → Event} {en : Event} {w : Nat} (h : ListLike rt a bg en w)
    (tt n : Nat) (body : List Event) (ht : cmpTT tt ∧ tt < 256) (hn : n ≤ maxMessageSize) (hbody : Chunk body) :
    Chunk ([bg tt n] ++ body ++ [en]) := by
  have hb : Chunk [bg tt n] := by cases h <;> exact Chunk.plain ⟨ht.2, hn⟩ ⟨ht.1, hn⟩ ⟨nofun, nofun, nofun⟩
  have he : Chunk [en] := by cases h <;> exact Chunk.plain trivial trivial ⟨nofun, nofun, nofun⟩
  exact (hb.append hbody).append he

theorem Chunk.map (kt vt n : Nat) (body : List Event) (hk : cmpTT kt ∧ kt < 256) (hv : cmpTT vt ∧ vt < 256)
    (hn : n ≤ maxMessageSize) (hbody : Chunk body) : Chunk ([.mb kt vt n] ++ body ++ [.me]) :=
  ((Chunk.plain (e := .mb kt vt n) ⟨hk.2, hv.2, hn⟩ ⟨hk.1, hv.1, hn⟩ ⟨nofun, nofun, nofun⟩).append hbody).append
    (Chunk.plain (e := .me) trivial trivial ⟨nofun, nofun, nofun⟩)

theorem zeroEvents_chunk (d : Defs) (t : Ty) (zs : List Event) (h : zeroEvents d t = some zs) :
    Chunk zs ∧ (wireOf d t = 2 → ∃ b, zs = [.bool b]) ∧ wireOf d t ≠ 0 := by
  have hm : (0 : Nat) ≤ maxMessageSize := Nat.zero_le _
  unfold zeroEvents at h
  unfold wireOf
  -- the arms of `zeroEvents`: nine base types, list, set, map (struct and typedef give `none`); `h_10`–`h_12`
  -- below are their numbers in that definition and follow it if the arms are reordered
  split at h <;> cases h <;> rename_i hres <;> simp only [hres]
  case h_10 a | h_11 a =>  -- list, set
    exact ⟨Chunk.seq (a := a) (by constructor) _ 0 [] (wireOf_fits d a) hm Chunk.nil,
      fun h => absurd h (by decide), by decide⟩
  case h_12 k v =>  -- map
    exact ⟨Chunk.map _ _ 0 [] (wireOf_fits d k) (wireOf_fits d v) hm Chunk.nil,
      fun h => absurd h (by decide), by decide⟩
  -- the nine base types: the one call for the zero value
  all_goals exact ⟨Scalar.chunk (by constructor) (by decide), by decide, by decide⟩

theorem Scalar.fits {d : Defs} {n : Nat} {t rt : Ty} {v : Val} {e : Event} (hr : resolve d t = rt)
    (h : Scalar rt v e) :
    wireOf d t ≠ 0 ∧ (wireOf d t = 2 → ∃ b, [e] = [.bool b]) ∧ (Fits d (n + 1) t v → BinFits e) := by
  unfold wireOf Fits
  rw [hr]
  cases h
  case bool b => exact ⟨by decide, fun _ => ⟨b, rfl⟩, fun _ => trivial⟩
  all_goals (dsimp only; exact ⟨by decide, fun h => absurd h (by decide), id⟩)

/-- Every call sequence the emitted `Write` produces for a well-typed value is under a real wire type and,
under BOOL, one bool (what the compact protocol's field header needs); when the value fits, it is one the
byte protocols round-trip. -/
theorem encV_chunk (d : Defs) : ∀ (n : Nat) (t : Ty) (v : Val), WT d n t v → ∃ es, encV d n t v = .ok es ∧
    wireOf d t ≠ 0 ∧ (wireOf d t = 2 → ∃ b, es = [.bool b]) ∧ (Fits d n t v → Chunk es) := by
  refine enc_induct d ?_ ?_ ?_ ?_
  · intro n t rt v e hr h
    obtain ⟨h1, h2, h3⟩ := h.fits (n := n) hr
    exact ⟨h1, h2, fun hfit => h.chunk (h3 hfit)⟩
  · intro n t rt a bg en w vs cs hr h hall
    have hw := wireOf_seq hr h
    refine ⟨by cases h <;> simp [hw], by cases h <;> simp [hw], fun hfit => ?_⟩
    have hfit : vs.length ≤ maxMessageSize ∧ ∀ x ∈ vs, Fits d n a x := by
      cases h <;> simpa only [Fits, hr] using hfit
    exact Chunk.seq h _ _ _ (wireOf_fits d a) hfit.1
      (Chunk.flatten (hall.imp_mem fun x hx c hc => hc.2.2 (hfit.2 x hx)))
  · intro n t kt vt kvs cs hres hall
    refine ⟨by simp [wireOf_map hres], by simp [wireOf_map hres], fun hfit => ?_⟩
    simp only [Fits, hres] at hfit
    refine Chunk.map _ _ _ _ (wireOf_fits d kt) (wireOf_fits d vt) hfit.1
      (Chunk.flatten (hall.imp_mem fun kv hkv c hc => ?_))
    obtain ⟨ck, cv, hk, hv, rfl⟩ := hc
    exact Chunk.append (hk.2.2 (hfit.2 kv hkv).1) (hv.2.2 (hfit.2 kv hkv).2)
  · intro n t nm sd fs cs hres hsd hw hall
    refine ⟨by simp [wireOf_struct hres], by simp [wireOf_struct hres], fun hfit => ?_⟩
    simp only [Fits, hres, hsd, Option.some.injEq, exists_eq_left'] at hfit
    refine Chunk.struct _ _ (Chunk.flatten (hall.imp_mem fun f hf c hc => ?_))
    rcases hc with ⟨_, rfl⟩ | ⟨x, body, hl, hp, rfl⟩
    · exact Chunk.nil
    · exact Chunk.field _ _ _ _ (hfit.1 f hf) (wireOf_fits d f.ty) hp.1
        (hp.2.2 (hfit.2 f hf x hl)) hp.2.1

theorem Chunk.hyps {es : List Event} (h : Chunk es) :
    (∀ e ∈ es, BinFits e) ∧ CmpOK es ∧ cmpBalanced 0 es = true := by
  refine ⟨h.bin, ?_, ?_⟩
  · have := h.ok []
    rw [List.append_nil] at this
    simp only [CmpOK, this, cmpOKb]
  · have := h.bal 0 []
    rw [List.append_nil] at this
    rw [this, cmpBalanced]

/-- `Fits` too is settled by evaluation on a concrete table and value. -/
instance instDecidableFits (d : Defs) : ∀ (n : Nat) (t : Ty) (v : Val), Decidable (Fits d n t v)
  | 0, _, _ => isFalse id
  | n + 1, t, v => by
    have := instDecidableFits d n
    unfold Fits
    split <;> infer_instance

end FV.Thrift
