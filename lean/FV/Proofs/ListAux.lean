/-
List facts that several regions of the proofs need and core does not state in this form.
-/
namespace FV

/-- A key whose values are distinct over `l` is injective on `l`. -/
theorem inj_of_nodup_map {α β : Type _} {f : α → β} {l : List α} (h : (l.map f).Nodup)
    {a b : α} (ha : a ∈ l) (hb : b ∈ l) (e : f a = f b) : a = b :=
  have hp := List.pairwise_map.mp h
  List.Pairwise.forall_of_forall_of_flip (R := fun a b => f a = f b → a = b) (fun _ _ _ => rfl)
    (hp.imp fun hne e => absurd e hne) (hp.imp fun hne e => absurd e.symm hne) ha hb e

/-- Reading one past the end of `l` in `l ++ [x]` gives `x`; below, what `l` has. -/
theorem getElem?_concat_some {α : Type _} {l : List α} {x c : α} {j : Nat} :
    (l ++ [x])[j]? = some c ↔ l[j]? = some c ∨ (j = l.length ∧ x = c) := by
  -- below the end, at it, beyond it
  rcases Nat.lt_trichotomy j l.length with h | rfl | h
  · rw [List.getElem?_append_left h]
    exact ⟨Or.inl, fun h' => h'.resolve_right fun ⟨e, _⟩ => absurd h (by omega)⟩
  · simp
  · rw [List.getElem?_eq_none (by simp; omega), List.getElem?_eq_none (by omega)]
    exact ⟨nofun, fun h' => h'.elim nofun fun ⟨e, _⟩ => by omega⟩

end FV
