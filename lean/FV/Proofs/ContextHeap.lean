/-
Helper lemmas for C17 (FV/Props/C17.lean) about FV/Model/ContextHeap.lean:
decimal rendering is injective and parses back, and the generic facts about
`State.apply`/`effect` from which the separation theorems follow: the four kinds
of effect an operation can have (`Did`), allocation only appends, an operation
overwrites at most one existing map and that map is held by the operation's
target context or is a returned map.

Independence rests on one notion, `Shielded s T r`: no operation whose target satisfies `T` reaches the map
`r`. Inward (`T = (· ≠ some j)`): operations not aimed at `j` change nothing `j` holds. Outward
(`T = fun o => o = none ∨ o = some j`): operations aimed at `j`, or at no context, change no map of another context.
-/
import FV.Model.ContextHeap
import FV.Proofs.Headers
import FV.Proofs.ListAux
namespace FV.CH
open FV

theorem digitsVal_dec (n : Nat) : digitsVal (dec n) 0 = some n :=
  digitsVal_of_msf (fun n => by rw [dec]; split <;> rfl) n

theorem dec_inj {a b : Nat} (h : dec a = dec b) : a = b := by
  have := digitsVal_dec a
  rw [h, digitsVal_dec b] at this
  exact (Option.some.inj this).symm

theorem dec_ne_nil (n : Nat) : dec n ≠ [] := by
  rw [dec]; split <;> simp

theorem parseU64_dec (n : Nat) (h : n < M64) : parseU64 (dec n) = some n := by
  unfold parseU64
  have : (dec n).isEmpty = false := by
    cases hd : dec n with
    | nil => exact absurd hd (dec_ne_nil n)
    | cons _ _ => rfl
  simp only [this, digitsVal_dec]
  unfold M64 at h
  simp [h]

/-- All references held anywhere point into the heap. -/
structure WF (s : State) : Prop where
  ctxs : ∀ c ∈ s.ctxs, ∀ r : Nat, r ∈ c.refs → r < s.heap.length
  protos : ∀ r : Nat, r ∈ s.protos → r < s.heap.length
  rets : ∀ r : Nat, r ∈ s.rets → r < s.heap.length

/-- `r` is one of the maps the effect allocates. -/
def Effect.Fresh (s : State) (e : Effect) (r : Nat) : Prop :=
  s.heap.length ≤ r ∧ r < s.heap.length + e.allocs.length

/-- New holders hold fresh maps only — except a received context's ephemeral map,
which is the protocol's. -/
structure EffOK (s : State) (e : Effect) : Prop where
  ctxs : ∀ c ∈ e.ctxs, ∀ r ∈ c.refs, e.Fresh s r ∨ r ∈ s.protos
  protos : ∀ r ∈ e.protos, e.Fresh s r
  rets : ∀ r ∈ e.rets, e.Fresh s r
  excl : e.rets = [] ∨ (e.ctxs = [] ∧ e.protos = [])

/-- A map that existed before is held by no new protocol and by no new accessor result, and by a new context
only as the ephemeral map of its protocol. -/
theorem EffOK.old_ref {s : State} {e : Effect} (ok : EffOK s e) {r : Nat} (hr : r < s.heap.length) :
    r ∉ e.protos ∧ r ∉ e.rets ∧ ∀ c ∈ e.ctxs, r ∈ c.refs → r ∈ s.protos :=
  ⟨fun h => Nat.not_le.2 hr (ok.protos r h).1, fun h => Nat.not_le.2 hr (ok.rets r h).1,
   fun _ hc hm => (ok.ctxs _ hc _ hm).resolve_left fun f => Nat.not_le.2 hr f.1⟩

/-- What one operation does, in four kinds: the shapes `effect` produces. -/
inductive Did (s : State) (op : Op) : Effect × Obs → Prop
  /-- No allocation, no new holder, no id consumed: at most one overwrite, of a map held by the
  operation's target context or of a map an accessor returned. -/
  | quiet (w : Option (Ref × AMap)) (o : Obs) (ho : ∀ x, o ≠ .created x)
      (hw : ∀ r m, w = some (r, m) →
        (∃ t c, op.target = some t ∧ s.ctxs[t]? = some c ∧ r ∈ c.refs) ∨ (op.target = none ∧ r ∈ s.rets)) :
      Did s op ({ nextOpId := s.nextOpId, write := w }, o)
  /-- A fresh empty map, held by a new protocol. -/
  | proto : Did s op ({ nextOpId := s.nextOpId, allocs := [[]], protos := [s.heap.length] }, .unit)
  /-- A fresh copy, held by the caller of an accessor. -/
  | ret (m : AMap) : Did s op ({ nextOpId := s.nextOpId, allocs := [m], rets := [s.heap.length] }, .map m)
  /-- A new context that carries the next op id, over fresh request and response maps; its ephemeral
  map is fresh too, or the protocol's. -/
  | made (hc : op.creates = true) (req resp : AMap) (hreq : req.get? opIdHeader = some (dec s.bump))
      (tl : List AMap) (eph : Ref) (he : tl.length = 1 ∧ eph = s.heap.length + 2 ∨ tl = [] ∧ eph ∈ s.protos) :
      Did s op ({ nextOpId := s.bump, allocs := req :: resp :: tl,
                  ctxs := [⟨s.heap.length, s.heap.length + 1, eph⟩] }, .created (req.get? opIdHeader))

theorem query_not_created (v : View) (q : Query) (o : Option Bytes) : query v q ≠ .created o := by
  cases q with
  | opId =>
    simp only [query]
    split
    · nofun
    · split <;> nofun
  | _ => nofun

theorem effect_did (s : State) (op : Op) : Did s op (effect s op) := by
  have idle : ∀ {op : Op} (o : Obs), (∀ x, o ≠ .created x) → Did s op (s.noop, o) :=
    fun o ho => .quiet none o ho nofun
  have ret : ∀ {op : Op} {i r} (m : AMap), op.target = none → s.rets[i]? = some r →
      Did s op ({ nextOpId := s.nextOpId, write := some (r, m) }, .unit) := fun m ht hr =>
    .quiet _ _ nofun fun r' _ h => by cases h; exact .inr ⟨ht, List.mem_of_getElem? hr⟩
  have tgt : ∀ {op : Op} {t c r} (m : AMap), op.target = some t → s.ctxs[t]? = some c → r ∈ c.refs →
      Did s op ({ nextOpId := s.nextOpId, write := some (r, m) }, .unit) := fun m ht hc hr =>
    .quiet _ _ nofun fun r' _ h => by cases h; exact .inl ⟨_, _, ht, hc, hr⟩
  cases op with
  | newProto => exact .proto
  | new cid => exact .made rfl _ _ rfl [[]] _ (.inl ⟨rfl, rfl⟩)
  | clone c g =>
    simp only [effect]; split
    · exact idle _ nofun
    · exact .made rfl _ _ (Hdrs.get?_set_same _ _ _) [_] _ (.inl ⟨rfl, rfl⟩)
  | fromRequest p hdrs =>
    simp only [effect]; split
    · exact idle _ nofun
    · split
      · exact idle _ nofun
      · exact .made rfl _ _ (Hdrs.get?_set_same _ _ _) [] _ (.inr ⟨rfl, List.mem_of_getElem? ‹_›⟩)
  | add c w k v =>
    simp only [effect]; split
    · exact idle _ nofun
    · exact tgt _ rfl ‹_› (by cases w <;> simp [Ctx.sel, Ctx.refs])
  | setTimeout c ns =>
    simp only [effect]; split
    · exact idle _ nofun
    · exact tgt _ rfl ‹_› (by simp [Ctx.refs])
  | read c q =>
    simp only [effect]; split
    · exact idle _ nofun
    · exact idle _ (query_not_created _ _)
  | get c w =>
    simp only [effect]; split
    · exact idle _ nofun
    · exact .ret _
  | retSet i k v =>
    simp only [effect]; split
    · exact idle _ nofun
    · exact ret _ rfl ‹_›
  | retDel i k =>
    simp only [effect]; split
    · exact idle _ nofun
    · exact ret _ rfl ‹_›
  | retRead i =>
    simp only [effect]; split
    · exact idle _ nofun
    · exact idle _ nofun

namespace Did
variable {s : State} {op : Op} {eo : Effect × Obs}

theorem ok (h : Did s op eo) : EffOK s eo.1 := by
  have fr : ∀ {e : Effect} (k : Nat), k < e.allocs.length → e.Fresh s (s.heap.length + k) :=
    fun k h => ⟨Nat.le_add_right _ k, Nat.add_lt_add_left h _⟩
  cases h with
  | quiet => exact ⟨nofun, nofun, nofun, .inl rfl⟩
  | proto => exact ⟨nofun, fun r h => by cases List.mem_singleton.1 h; exact fr 0 (Nat.lt_succ_self _), nofun, .inl rfl⟩
  | ret m =>
    exact ⟨nofun, nofun, fun r h => by cases List.mem_singleton.1 h; exact fr 0 (Nat.lt_succ_self _), .inr ⟨rfl, rfl⟩⟩
  | made hc req resp hreq tl eph he =>
    refine ⟨fun c h r hr => ?_, nofun, nofun, .inl rfl⟩
    cases List.mem_singleton.1 h
    simp only [Ctx.refs, List.mem_cons, List.not_mem_nil, or_false] at hr
    rcases hr with rfl | rfl | rfl
    · exact .inl (fr 0 (Nat.zero_lt_succ _))
    · exact .inl (fr 1 (Nat.succ_lt_succ (Nat.zero_lt_succ _)))
    · rcases he with ⟨h1, rfl⟩ | ⟨_, h2⟩
      · exact .inl (fr 2 (by simp [h1]))
      · exact .inr h2

/-- The one existing map an operation may overwrite is held by its target context,
or it is a map an accessor returned (and then the operation has no target). -/
theorem write_target (h : Did s op eo) (r : Nat) (m : AMap) (hw : eo.1.write = some (r, m)) :
    (∃ t c, op.target = some t ∧ s.ctxs[t]? = some c ∧ r ∈ c.refs) ∨ (op.target = none ∧ r ∈ s.rets) := by
  cases h with
  | quiet w o ho h => exact h r m hw
  | _ => cases hw

theorem created (h : Did s op eo) :
    (eo.2 = .created (some (dec s.bump)) ∧ eo.1.nextOpId = s.bump ∧ op.creates = true) ∨
    ((∀ o, eo.2 ≠ .created o) ∧ eo.1.nextOpId = s.nextOpId) := by
  cases h with
  | quiet w o ho => exact .inr ⟨ho, rfl⟩
  | proto => exact .inr ⟨nofun, rfl⟩
  | ret m => exact .inr ⟨nofun, rfl⟩
  | made hc req resp hreq => exact .inl ⟨congrArg _ hreq, rfl, hc⟩

end Did

theorem apply_heap_length (s : State) (e : Effect) :
    (s.apply e).heap.length = s.heap.length + e.allocs.length := by
  unfold State.apply
  cases e.write with
  | none => simp
  | some p => simp

theorem apply_hget_old (s : State) (e : Effect) (r : Nat) (hr : r < s.heap.length)
    (hw : ∀ r' m, e.write = some (r', m) → r' ≠ r) : hget (s.apply e).heap r = hget s.heap r := by
  unfold State.apply hget
  cases hwr : e.write with
  | none => simp [List.getElem?_append_left hr]
  | some p =>
    obtain ⟨r', m⟩ := p
    have := hw r' m hwr
    simp only
    rw [List.getElem?_append_left (by simpa using hr), List.getElem?_set_ne this]

theorem WF_apply (s : State) (e : Effect) (h : WF s) (he : EffOK s e) : WF (s.apply e) := by
  have hl := apply_heap_length s e
  refine ⟨fun c hc r hr => ?_, fun r hr => ?_, fun r hr => ?_⟩ <;> rw [hl]
  · rcases List.mem_append.1 hc with hc | hc
    · exact Nat.lt_add_right _ (h.ctxs c hc r hr)
    · rcases he.ctxs c hc r hr with h3 | h3
      · exact h3.2
      · exact Nat.lt_add_right _ (h.protos _ h3)
  · exact (List.mem_append.1 hr).elim (fun hr => Nat.lt_add_right _ (h.protos r hr)) fun hr => (he.protos r hr).2
  · exact (List.mem_append.1 hr).elim (fun hr => Nat.lt_add_right _ (h.rets r hr)) fun hr => (he.rets r hr).2

theorem WF_step (s : State) (op : Op) (h : WF s) : WF (step s op).1 :=
  WF_apply s _ h (effect_did s op).ok

theorem step_ctxs_old (s : State) (op : Op) (i : Nat) (c : Ctx) (h : s.ctxs[i]? = some c) :
    (step s op).1.ctxs[i]? = some c := by
  simp only [step, State.apply]
  rw [List.getElem?_append_left (List.getElem?_eq_some_iff.mp h).1]; exact h

/-- No operation whose target satisfies `T` reaches the map `r`: it is allocated, no accessor returned it, no
context that `T` admits holds it, and while such a context is still to come no protocol holds it (a received
context takes its protocol's ephemeral map). `T = (· ≠ some j)`: `r` is `j`'s alone; `T = fun o => o = none ∨ o = some j`:
`r` is not `j`'s. -/
structure Shielded (s : State) (T : Option Nat → Prop) (r : Nat) : Prop where
  lt : r < s.heap.length
  rets : r ∉ s.rets
  ctxs : ∀ t c, T (some t) → s.ctxs[t]? = some c → r ∉ c.refs
  protos : ∀ t, T (some t) → s.ctxs.length ≤ t → r ∉ s.protos

theorem Shielded_step (s : State) (op : Op) (T : Option Nat → Prop) (r : Nat) (h : Shielded s T r) :
    Shielded (step s op).1 T r := by
  have ⟨hp, hr, hc⟩ := (effect_did s op).ok.old_ref h.lt
  refine ⟨by rw [step, apply_heap_length]; exact Nat.lt_add_right _ h.lt,
    fun hm => (List.mem_append.1 hm).elim h.rets hr, fun t c hT hi hm => ?_,
    fun t hT hl hm => (List.mem_append.1 hm).elim (h.protos t hT (Nat.le_trans (by simp [step, State.apply]) hl)) hp⟩
  by_cases hil : t < s.ctxs.length
  · exact h.ctxs t c hT (by rwa [step, State.apply, List.getElem?_append_left hil] at hi) hm
  · rw [step, State.apply, List.getElem?_append_right (by omega)] at hi
    exact h.protos t hT (by omega) (hc c (List.mem_of_getElem? hi) hm)

/-- Frame: the one map an operation may overwrite is held by its target or was returned by an accessor. -/
theorem Shielded.frame_step {s : State} {T : Option Nat → Prop} {r : Nat} (h : Shielded s T r) (op : Op)
    (hT : T op.target) : hget (step s op).1.heap r = hget s.heap r := by
  refine apply_hget_old s _ r h.lt fun r' m hw heq => ?_
  subst heq
  rcases (effect_did s op).write_target r' m hw with ⟨t, c, h1, h2, h3⟩ | ⟨_, h2⟩
  · exact h.ctxs t c (h1 ▸ hT) h2 h3
  · exact h.rets h2

/-- Reachable-state invariant: well-formed, and the maps accessors returned are held by
no context and no protocol. -/
structure RInv (s : State) : Prop where
  wf : WF s
  retsCtx : ∀ r ∈ s.rets, ∀ c ∈ s.ctxs, r ∉ c.refs
  retsProto : ∀ r ∈ s.rets, r ∉ s.protos

theorem RInv_init (start : Nat) : RInv (State.init start) := by
  constructor
  · constructor <;> simp [State.init]
  · simp [State.init]
  · simp [State.init]

theorem RInv_step (s : State) (op : Op) (h : RInv s) : RInv (step s op).1 := by
  have ok := (effect_did s op).ok
  have wf := h.wf
  -- a holder is old or new; what an old one holds existed before, what a new accessor result holds did not
  refine ⟨WF_step s op wf, fun r hr c hc hmem => ?_, fun r hr hp => ?_⟩
  · rcases List.mem_append.1 hr with hr | hr <;> rcases List.mem_append.1 hc with hc | hc
    · exact h.retsCtx r hr c hc hmem
    · exact h.retsProto r hr ((ok.old_ref (wf.rets r hr)).2.2 c hc hmem)
    · exact (ok.old_ref (wf.ctxs c hc r hmem)).2.1 hr
    · rcases ok.excl with e1 | e1
      · rw [e1] at hr; cases hr
      · rw [e1.1] at hc; cases hc
  · rcases List.mem_append.1 hr with hr | hr <;> rcases List.mem_append.1 hp with hp | hp
    · exact h.retsProto r hr hp
    · exact (ok.old_ref (wf.rets r hr)).1 hp
    · exact (ok.old_ref (wf.protos r hp)).2.1 hr
    · rcases ok.excl with e1 | e1
      · rw [e1] at hr; cases hr
      · rw [e1.2] at hp; cases hp

theorem RInv_run (ops : List Op) : ∀ s, RInv s → RInv (run s ops).1 := by
  induction ops with
  | nil => intro s h; exact h
  | cons op t ih => intro s h; simp only [run]; exact ih _ (RInv_step s op h)

/-- The op ids `k` successive creations observe when the counter stands at `n`. -/
def idsFrom (n k : Nat) : List (Option Bytes) :=
  (List.range k).map fun i => some (dec ((n + 1 + i) % M64))

theorem add_mod_ne (M n a b : Nat) (hab : a < b) (hb : b < M) : (n + a) % M ≠ (n + b) % M := by
  intro e
  have := Nat.sub_mod_eq_zero_of_mod_eq e.symm
  rw [Nat.add_sub_add_left, Nat.mod_eq_of_lt (Nat.lt_of_le_of_lt (Nat.sub_le b a) hb)] at this
  exact Nat.not_le.2 hab (Nat.le_of_sub_eq_zero this)

theorem idsFrom_nodup (n k : Nat) (hk : k ≤ M64) : (idsFrom n k).Nodup := by
  unfold idsFrom List.Nodup
  rw [List.pairwise_map]
  refine List.Pairwise.imp_of_mem ?_ (List.pairwise_lt_range (n := k))
  intro a b _ hb hab heq
  exact add_mod_ne M64 (n + 1) a b hab (Nat.lt_of_lt_of_le (List.mem_range.1 hb) hk)
    (dec_inj (Option.some.inj heq))

theorem idsFrom_succ (n k : Nat) :
    idsFrom n (k + 1) = some (dec ((n + 1) % M64)) :: idsFrom ((n + 1) % M64) k := by
  unfold idsFrom
  rw [List.range_succ_eq_map]
  simp only [List.map_cons, List.map_map, Nat.add_zero]
  congr 1
  apply List.map_congr_left
  intro i _
  simp only [Function.comp]
  rw [Nat.add_assoc ((n + 1) % M64), Nat.mod_add_mod, Nat.add_comm 1 i]

theorem creations_cons (op : Op) (t : List Op) :
    creations (op :: t) = creations t + if op.creates then 1 else 0 := by
  simp only [creations, List.filter_cons]; split <;> rfl

theorem createdIds_cons_other (o : Obs) (t : List Obs) (h : ∀ x, o ≠ .created x) :
    createdIds (o :: t) = createdIds t := by
  cases o with
  | created x => exact absurd rfl (h x)
  | _ => rfl

theorem createdIds_run (ops : List Op) : ∀ s : State,
    ∃ k, k ≤ creations ops ∧ createdIds (run s ops).2 = idsFrom s.nextOpId k := by
  induction ops with
  | nil => intro s; exact ⟨0, Nat.le_refl _, rfl⟩
  | cons op t ih =>
    intro s
    obtain ⟨k, hk, hids⟩ := ih (step s op).1
    rw [creations_cons]
    rcases (effect_did s op).created with ⟨h1, h2, h3⟩ | ⟨h1, h2⟩
    · refine ⟨k + 1, by rw [h3]; exact Nat.succ_le_succ hk, ?_⟩
      rw [show (step s op).1.nextOpId = s.bump from h2] at hids
      simp only [run, step, h1, createdIds, idsFrom_succ]
      exact congrArg _ hids
    · refine ⟨k, Nat.le_add_right_of_le hk, ?_⟩
      rw [show (step s op).1.nextOpId = s.nextOpId from h2] at hids
      exact (createdIds_cons_other _ _ h1).trans hids

theorem view_eq_of (s s' : State) (i : Nat) (c : Ctx) (h : s.ctxs[i]? = some c) (h' : s'.ctxs[i]? = some c)
    (hh : ∀ r : Nat, r ∈ c.refs → hget s'.heap r = hget s.heap r) : view s' i = view s i := by
  simp only [view, h, h', Option.map_some, viewOf]
  rw [hh c.req (by simp [Ctx.refs]), hh c.resp (by simp [Ctx.refs]), hh c.eph (by simp [Ctx.refs])]

theorem clone_step (s : State) (c : Nat) (g : Bool) (x : Ctx) (hc : s.ctxs[c]? = some x) :
    (step s (.clone c g)).1.ctxs = s.ctxs ++ [⟨s.heap.length, s.heap.length + 1, s.heap.length + 2⟩] ∧
    (step s (.clone c g)).1.heap = s.heap ++ [(hget s.heap x.req).set opIdHeader (dec s.bump), hget s.heap x.resp, if g then [] else hget s.heap x.eph] ∧
    (step s (.clone c g)).1.rets = s.rets ∧ (step s (.clone c g)).1.protos = s.protos ∧
    (step s (.clone c g)).2 = .created (some (dec s.bump)) := by
  simp [step, effect, hc, State.apply, viewOf, Hdrs.get?_set_same]

theorem new_step (s : State) (cid : Bytes) :
    (step s (.new cid)).1.ctxs = s.ctxs ++ [⟨s.heap.length, s.heap.length + 1, s.heap.length + 2⟩] ∧
    (step s (.new cid)).1.protos = s.protos ∧ (step s (.new cid)).1.rets = s.rets := by
  simp [step, effect, State.apply]

/-- A context appended by a step that hands its three fresh maps to nobody else has them to itself:
`NewFContext` and `Clone`. -/
theorem created_shielded (s s' : State) (h : WF s) (h' : WF s')
    (hc : s'.ctxs = s.ctxs ++ [⟨s.heap.length, s.heap.length + 1, s.heap.length + 2⟩])
    (hp : s'.protos = s.protos) (hr : s'.rets = s.rets) (r : Nat)
    (hm : r ∈ (Ctx.mk s.heap.length (s.heap.length + 1) (s.heap.length + 2)).refs) :
    Shielded s' (· ≠ some s.ctxs.length) r := by
  have hge : s.heap.length ≤ r := by
    simp only [Ctx.refs, List.mem_cons, List.not_mem_nil, or_false] at hm; omega
  refine ⟨h'.ctxs _ (by simp [hc]) r hm, fun hm => ?_, fun t c ht hi hm' => ?_, fun t _ _ hm => ?_⟩
  · have := h.rets r (hr ▸ hm); omega
  · rw [hc] at hi
    rcases getElem?_concat_some.1 hi with hi | ⟨hi, _⟩
    · have := h.ctxs c (List.mem_of_getElem? hi) r hm'; omega
    · exact ht (congrArg some hi)
  · have := h.protos r (hp ▸ hm); omega

theorem view_frame_run (T : Option Nat → Prop) (ops : List Op) : ∀ (s : State) (k : Nat) (c : Ctx),
    s.ctxs[k]? = some c → (∀ r : Nat, r ∈ c.refs → Shielded s T r) → (∀ op ∈ ops, T op.target) →
    view (run s ops).1 k = view s k := by
  induction ops with
  | nil => intro s k c _ _ _; rfl
  | cons op t ih =>
    intro s k c hk hs hops
    have hk' := step_ctxs_old s op k c hk
    simp only [run]
    rw [ih _ k c hk' (fun r hr => Shielded_step s op T r (hs r hr)) fun op' hm => hops op' (by simp [hm])]
    exact view_eq_of s _ k c hk hk' fun r hr => (hs r hr).frame_step op (hops op (by simp))

/-- Operations that are not aimed at a context — creations, reads, accessor calls and
every mutation of maps that accessors returned — change no existing context. -/
theorem untargeted_frame_run (ops : List Op) (s : State) (h : RInv s) (hops : ∀ op ∈ ops, op.target = none)
    (k : Nat) (v : View) (hv : view s k = some v) : view (run s ops).1 k = some v := by
  cases hk : s.ctxs[k]? with
  | none => simp [view, hk] at hv
  | some c =>
    have hmem := List.mem_of_getElem? hk
    rw [← hv]
    exact view_frame_run (· = none) ops s k c hk
      (fun r hr => ⟨h.wf.ctxs c hmem r hr, fun hm => h.retsCtx r hm c hmem hr, nofun, nofun⟩) hops

theorem apply_hget_write (s : State) (e : Effect) (r w : Nat) (m : AMap) (hr : r < s.heap.length)
    (hw : e.write = some (w, m)) : hget (s.apply e).heap r = if w = r then m else hget s.heap r := by
  unfold State.apply hget
  simp only [hw]
  rw [List.getElem?_append_left (by simpa using hr), List.getElem?_set]
  split
  · next e => rw [e, if_pos hr]; rfl
  · rfl

/-- Two states agree on context `j`: same three references, in both held by `j` alone, same contents. -/
structure AgreeOn (a b : State) (j : Nat) (c : Ctx) : Prop where
  ca : a.ctxs[j]? = some c
  cb : b.ctxs[j]? = some c
  oa : ∀ r : Nat, r ∈ c.refs → Shielded a (· ≠ some j) r
  ob : ∀ r : Nat, r ∈ c.refs → Shielded b (· ≠ some j) r
  same : ∀ r : Nat, r ∈ c.refs → hget a.heap r = hget b.heap r

theorem AgreeOn_left (a b : State) (j : Nat) (c : Ctx) (op : Op) (h : AgreeOn a b j c) (ht : op.target ≠ some j) :
    AgreeOn (step a op).1 b j c :=
  { ca := step_ctxs_old a op j c h.ca, cb := h.cb
    oa := fun r hr => Shielded_step a op _ r (h.oa r hr), ob := h.ob
    same := fun r hr => ((h.oa r hr).frame_step op ht).trans (h.same r hr) }

theorem AgreeOn_write (a b : State) (j : Nat) (c : Ctx) (op : Op) (h : AgreeOn a b j c)
    (w : Nat) (f : AMap → AMap)
    (ea : (effect a op).1.write = some (w, f (hget a.heap w)))
    (eb : (effect b op).1.write = some (w, f (hget b.heap w))) :
    AgreeOn (step a op).1 (step b op).1 j c :=
  { ca := step_ctxs_old a op j c h.ca, cb := step_ctxs_old b op j c h.cb
    oa := fun r hr => Shielded_step a op _ r (h.oa r hr)
    ob := fun r hr => Shielded_step b op _ r (h.ob r hr)
    same := fun r hr => by
      simp only [step]
      rw [apply_hget_write a _ r w _ (h.oa r hr).lt ea, apply_hget_write b _ r w _ (h.ob r hr).lt eb]
      split
      · next e => rw [e, h.same r hr]
      · exact h.same r hr }

theorem AgreeOn_both (a b : State) (j : Nat) (c : Ctx) (op : Op) (h : AgreeOn a b j c) (ht : op.target = some j) :
    AgreeOn (step a op).1 (step b op).1 j c := by
  cases op with
  | add c' w k v =>
    cases ht
    apply AgreeOn_write a b j c _ h (c.sel w) (fun m => m.set k v)
    · simp only [effect, h.ca]
    · simp only [effect, h.cb]
  | setTimeout c' ns =>
    cases ht
    apply AgreeOn_write a b j c _ h c.req (fun m => m.set timeoutHeader (decInt (wireMs ns)))
    · simp only [effect, h.ca]
    · simp only [effect, h.cb]
  | _ => cases ht

theorem AgreeOn_run (ops : List Op) : ∀ (a b : State) (j : Nat) (c : Ctx), AgreeOn a b j c →
    AgreeOn (run a ops).1 (run b (ops.filter fun op => op.target = some j)).1 j c := by
  induction ops with
  | nil => intro a b j c h; exact h
  | cons op t ih =>
    intro a b j c h
    by_cases ht : op.target = some j
    · simp only [List.filter_cons, ht, decide_true, if_true, run]
      exact ih _ _ j c (AgreeOn_both a b j c op h ht)
    · simp only [List.filter_cons, ht, decide_false, run]
      exact ih _ _ j c (AgreeOn_left a b j c op h ht)

/-- Non-interference: a context that has its maps to itself reads, after any run, what it would read had only
the operations aimed at it been executed. -/
theorem owned_view_run (s : State) (j : Nat) (c : Ctx) (hj : s.ctxs[j]? = some c)
    (own : ∀ r : Nat, r ∈ c.refs → Shielded s (· ≠ some j) r) (ops : List Op) :
    view (run s ops).1 j = view (run s (ops.filter fun op => op.target = some j)).1 j :=
  have h := AgreeOn_run ops s s j c ⟨hj, hj, own, own, fun _ _ => rfl⟩
  view_eq_of _ _ j c h.cb h.ca h.same

end FV.CH
