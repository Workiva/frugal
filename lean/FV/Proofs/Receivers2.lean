/-
The connection receivers of FV.Model.Receivers2 (C05). Termination is by consumption: a read that returns has taken
bytes off the stream, so the fuel `|s| + 1` of a loop is never exhausted. The adapter read loop is shown to agree with
C15's model of the same loop (FV.Model.Framed); that it always closes, and with which cause, follows from that.
-/
import FV.Model.Receivers2
import FV.Model.Framed
import FV.Proofs.Framed
import FV.Proofs.Headers

namespace FV.Recv2
open FV

theorem makeBytes_nonneg {z : Int} (h : ¬ z < 0) : makeBytes z = .ok z.toNat := if_neg h

theorem makeBytes_nat (n : Nat) : makeBytes (n : Int) = .ok n :=
  makeBytes_nonneg (Int.not_lt.mpr (Int.natCast_nonneg n))

/-- `readFrameHeader`: what it leaves on the stream. -/
theorem header_len (t : FT) : match t.header with
    | .eof => True
    | .bad t2 => t2.s.length + 4 ≤ t.s.length
    | .size t1 => t1.s.length + 4 ≤ t.s.length ∧ t1.rem ≤ maxFrame := by
  unfold FT.header
  by_cases h4 : t.s.length < 4
  · rw [if_pos h4]; trivial
  · rw [if_neg h4]
    by_cases hb : rd32 t.s > maxFrame
    · rw [if_pos hb]; simp only [List.length_drop]; omega
    · rw [if_neg hb]; simp only [List.length_drop]; omega

theorem ensure_len (t : FT) : match t.ensure with
    | .size t1 => t1.s.length ≤ t.s.length
    | _ => True := by
  unfold FT.ensure
  by_cases h : t.rem = 0
  · rw [if_pos h]
    have := header_len t
    cases hh : t.header <;> rw [hh] at this <;> simp only
    omega
  · rw [if_neg h]; exact Nat.le_refl _

/-- `io.ReadFull` over the framed transport never panics; what it returns is exactly `n` bytes taken off the stream. -/
theorem readFull_spec (t : FT) (n : Nat) :
    (t.readFull n).Ensures fun x => x.1.length = n ∧ x.2.s.length + n ≤ t.s.length := by
  unfold FT.readFull
  refine Res.ensures_ite (fun h => ?_) fun hn => ?_
  · subst h; exact ⟨rfl, Nat.le_refl _⟩
  · have he := ensure_len t
    cases hh : t.ensure with
    | eof => trivial
    | bad _ => trivial
    | size t1 =>
      rw [hh] at he
      dsimp only at he ⊢
      refine Res.ensures_ite (fun _ => ?_) fun _ => Res.ensures_ite (fun _ => trivial) fun hl => ?_
      · rw [makeBytes_nat]
        dsimp only
        refine Res.ensures_ite (fun _ => ?_) fun _ => Res.ensures_ite (fun _ => trivial) fun _ => trivial
        have hb := header_len t1
        cases hh1 : t1.header with
        | eof => trivial
        | size _ => trivial
        | bad t2 =>
          rw [hh1] at hb
          dsimp only at hb ⊢
          refine Res.ensures_ite (fun _ => trivial) fun hl => ?_
          simp only [Res.Ensures, List.length_take, List.length_drop]
          omega
      · simp only [Res.Ensures, List.length_take, List.length_drop]
        omega

/-- `readFrame` at a frame boundary, as a function of the stream alone: the four outcomes of the next frame. -/
theorem readFrame_boundary (s : Bytes) :
    readFrame ⟨s, 0⟩ =
      if s.length < 4 then .err .eof
      else if rd32 s > maxFrame then .err .transport
      else if (s.drop 4).length < rd32 s then .err .eof
      else .ok ((s.drop 4).take (rd32 s), ⟨(s.drop 4).drop (rd32 s), 0⟩) := by
  unfold readFrame FT.ensure FT.header
  simp only [if_true]
  by_cases h4 : s.length < 4
  · simp only [h4, if_true]
  · simp only [h4, if_false]
    by_cases hb : rd32 s > maxFrame
    · simp only [hb, if_true]
    · simp only [hb, if_false]
      rw [makeBytes_nat]
      dsimp only
      unfold FT.readFull
      by_cases hz : rd32 s = 0
      · simp [hz]
      · simp only [hz, if_false]
        unfold FT.ensure
        simp only [hz, if_false]
        rw [if_neg (by omega)]
        by_cases hl : (s.drop 4).length < rd32 s
        · simp only [hl, if_true]
        · simp only [hl, if_false, Nat.sub_self]

/-- Clean/dirty as C15's transition system classifies the value published on `Closed()`. -/
def causeClass : Option Err → Adapter.Cause
  | none => .clean
  | some _ => .dirty

/-- From a frame boundary, with fuel beyond the length of the stream, the read loop ends, and ends as C15's model of the
same loop says: it has delivered the frames `deliver` counts, and publishes nil exactly when `deliver` accepted every
whole frame and no size prefix was refused. -/
theorem adapterLoop_refines : ∀ (fuel : Nat) (s : Bytes) (d : Nat), s.length < fuel →
    ∃ e, adapterLoop fuel ⟨s, 0⟩ d = .ok e ∧
      e.delivered = d + (Framed.deliver (Framed.deframe s).1).1 ∧
      (e.cause = none ↔ ((Framed.deliver (Framed.deframe s).1).2 = true ∧ (Framed.deframe s).2 ≠ .badSize)) := by
  intro fuel
  induction fuel with
  | zero => intro s d h; omega
  | succ k ih =>
    intro s d hf
    unfold adapterLoop
    rw [readFrame_boundary, Framed.deframe, show Framed.maxLength = maxFrame from rfl]
    -- the four ways the stream ends before another whole frame: nothing more is delivered, and the
    -- cause is nil unless the size prefix was refused
    have stop : ∀ (c : Option Err) (x : Framed.End), (c = none ↔ x ≠ .badSize) →
        ∃ e, Res.ok (⟨c, d⟩ : LoopEnd) = .ok e ∧ e.delivered = d + (Framed.deliver []).1 ∧
          (e.cause = none ↔ ((Framed.deliver []).2 = true ∧ x ≠ .badSize)) :=
      fun c x h => ⟨⟨c, d⟩, rfl, rfl, by simpa [Framed.deliver] using h⟩
    by_cases h0 : s.length = 0
    · rw [if_pos (by omega), if_pos h0]; exact stop none .boundary (by decide)
    · by_cases h4 : s.length < 4
      · rw [if_pos h4, if_neg h0, if_pos h4]; exact stop none .cutHeader (by decide)
      · rw [if_neg h4, if_neg h0, if_neg h4]
        by_cases hb : rd32 s > maxFrame
        · rw [if_pos hb, if_pos hb]; exact stop (some .transport) .badSize (by decide)
        · rw [if_neg hb, if_neg hb]
          by_cases hl : (s.drop 4).length < rd32 s
          · rw [if_pos hl, if_pos hl]; exact stop none .cutBody (by decide)
          · rw [if_neg hl, if_neg hl]
            obtain ⟨e, he, hd, hc⟩ := ih ((s.drop 4).drop (rd32 s)) (d + 1)
              (by simp only [List.length_drop]; omega)
            cases hx : registryExecuteEmpty ((s.drop 4).take (rd32 s)) with
            | ok u =>
              simp only [Framed.deliver, hx, Res.isOk, if_true]
              exact ⟨e, he, by omega, hc⟩
            | err er =>
              simp only [Framed.deliver, hx, Res.isOk]
              exact ⟨_, rfl, by simp, by simp⟩
            | panic p => exact absurd hx (registryExecuteEmpty_no_panic _ p)

/-- The adapter read loop always ends in a close of its own connection. -/
theorem adapterRecv_closes (s : Bytes) : ∃ e, adapterRecv s = .ok e := by
  obtain ⟨e, he, _⟩ := adapterLoop_refines (s.length + 1) s 0 (by omega)
  exact ⟨e, he⟩

/-- C15's verdict on a stream that the peer ends: clean unless a frame was refused or a size prefix was. -/
theorem readAll_eof (s : Bytes) : Framed.readAll s true =
    ((Framed.deliver (Framed.deframe s).1).1,
      if (Framed.deliver (Framed.deframe s).1).2 = true ∧ (Framed.deframe s).2 ≠ .badSize then .clean else .dirty) := by
  unfold Framed.readAll
  cases hd : (Framed.deliver (Framed.deframe s).1).2 <;> by_cases hb : (Framed.deframe s).2 = .badSize <;> simp [hd, hb]

theorem deframe_encode (fs : List Bytes) (hfs : ∀ f ∈ fs, f.length ≤ Framed.maxLength) :
    Framed.deframe (Framed.encode fs) = (fs, .boundary) := by
  induction fs with
  | nil => rw [Framed.encode, Framed.deframe]; rfl
  | cons f t ih =>
    rw [Framed.encode, List.append_assoc, Framed.deframe_frame f _ (hfs f List.mem_cons_self),
      ih fun g hg => hfs g (List.mem_cons_of_mem _ hg)]

/-- Through an `io.ReadFull` of the framed transport whose errors `readHeader` re-types. -/
theorem ensures_readFull {β : Type} {P : β → Prop} (t : FT) (n : Nat) (k : Bytes → FT → Res β)
    (hk : ∀ b t', b.length = n → t'.s.length + n ≤ t.s.length → (k b t').Ensures P) :
    (match t.readFull n with
      | .panic p => Res.panic p
      | .err .eof => Res.err .eof
      | .err _ => Res.err .transport
      | .ok (b, t') => k b t').Ensures P := by
  have h := readFull_spec t n
  cases r : t.readFull n with
  | panic p => exact absurd r (h.ne_panic p)
  | err e => cases e <;> trivial
  | ok x => exact hk x.1 x.2 (h.of_ok r).1 (h.of_ok r).2

/-- `readHeader` off a framed transport never panics and consumes at least the version byte and the size. -/
theorem readHeaderF_spec (t : FT) : (readHeaderF t).Ensures fun x => x.2.s.length + 5 ≤ t.s.length := by
  unfold readHeaderF
  refine ensures_readFull t 1 _ fun vb t1 _ l1 => Res.ensures_ite (fun _ => trivial) fun _ =>
    ensures_readFull t1 4 _ fun sb t2 _ l2 => Res.ensures_ite (fun _ => trivial) fun hneg => ?_
  rw [makeBytes_nonneg hneg]
  refine ensures_readFull t2 _ _ fun body t3 lb l3 => ?_
  cases rp : readPairs body 0 (toI32 (rd32 sb)) [] with
  | panic p => exact absurd rp (readPairs_no_panic body 0 _ [] (Int.le_refl 0) (by omega) p)
  | err _ => trivial
  | ok _ => show t3.s.length + 5 ≤ t.s.length; omega

/-- `Process` never panics; a request it handled cost the stream at least five bytes and left the transport at a
frame boundary. -/
theorem drainProcess_spec (t : FT) :
    (drainProcess t).Ensures fun t' => t'.s.length + 5 ≤ t.s.length ∧ t'.rem = 0 := by
  unfold drainProcess
  have h := readHeaderF_spec t
  cases r : readHeaderF t with
  | panic p => exact h.ne_panic p r
  | err _ => trivial
  | ok x =>
    obtain ⟨hd, t1⟩ := x
    have l := h.of_ok r
    dsimp only at l ⊢
    refine Res.ensures_ite (fun _ => Res.ensures_ite (fun _ => trivial) fun _ => ?_) fun _ => trivial
    exact ⟨by simp only [List.length_drop]; omega, rfl⟩

/-- `accept` returns on every byte stream: each request handled consumes bytes, so the fuel `|s| + 1` suffices. -/
theorem acceptLoop_total : ∀ (fuel : Nat) (t : FT) (n : Nat), t.s.length < fuel → ∃ e, acceptLoop fuel t n = .ok e := by
  intro fuel
  induction fuel with
  | zero => intro t n h; omega
  | succ k ih =>
    intro t n hf
    unfold acceptLoop
    have h := drainProcess_spec t
    cases r : drainProcess t with
    | panic p => exact absurd r (h.ne_panic p)
    | ok t' => exact ih t' (n + 1) (by have := (h.of_ok r).1; omega)
    | err e => cases e <;> exact ⟨_, rfl⟩

theorem accept_returns (s : Bytes) : ∃ e, accept s = .ok e :=
  acceptLoop_total _ _ _ (by simp)

theorem recvOn_spec (recv : Bytes → Res (Option Err)) (hr : ∀ s, ∃ c, recv s = .ok c)
    (i : Nat) (s : Bytes) (y : Sys) (hy : y.crashed = false) :
    (recvOn recv i s y).crashed = false ∧
    (∀ j, j ≠ i → (recvOn recv i s y).conns[j]? = y.conns[j]?) ∧
    (∀ c, y.conns[i]? = some c →
      (c.isOpen = false → (recvOn recv i s y).conns[i]? = some c) ∧
      (c.isOpen = true → ∃ cause, recv s = .ok cause ∧
        (recvOn recv i s y).conns[i]? = some ⟨false, c.causes ++ [cause]⟩)) := by
  obtain ⟨cause, hc⟩ := hr s
  unfold recvOn
  rw [if_neg (by simp [hy])]
  cases hi : y.conns[i]? with
  | none => exact ⟨hy, fun _ _ => rfl, nofun⟩
  | some c =>
    dsimp only
    cases ho : c.isOpen with
    | false =>
      refine ⟨hy, fun _ _ => rfl, ?_⟩
      rintro _ ⟨⟩
      exact ⟨fun _ => hi, fun h => (by rw [ho] at h; cases h)⟩
    | true =>
      rw [if_neg (by decide), hc]
      refine ⟨hy, fun j hj => List.getElem?_set_ne (Ne.symm hj), ?_⟩
      rintro _ ⟨⟩
      exact ⟨fun h => (by rw [ho] at h; cases h), fun _ =>
        ⟨cause, rfl, List.getElem?_set_self (List.getElem?_eq_some_iff.mp hi).1⟩⟩

/-- A history of deliveries: `(i, s)` = the peer of connection `i` sends `s` and hangs up. -/
def deliverAll (recv : Bytes → Res (Option Err)) : Sys → List (Nat × Bytes) → Sys
  | y, [] => y
  | y, (i, s) :: t => deliverAll recv (recvOn recv i s y) t

/-- What `deliverAll` keeps, from fresh connections on (the conclusion of `c05_connections_one_cause_each`). -/
def OneCauseEach (y : Sys) : Prop :=
  y.crashed = false ∧ ∀ c ∈ y.conns, (c.isOpen = true → c.causes = []) ∧ (c.isOpen = false → c.causes.length = 1)

theorem recvOn_inv (recv : Bytes → Res (Option Err)) (hr : ∀ s, ∃ c, recv s = .ok c)
    (i : Nat) (s : Bytes) (y : Sys) (hy : OneCauseEach y) : OneCauseEach (recvOn recv i s y) := by
  obtain ⟨cause, hc⟩ := hr s
  unfold recvOn
  rw [if_neg (by simp [hy.1])]
  cases hi : y.conns[i]? with
  | none => exact hy
  | some c =>
    dsimp only
    cases ho : c.isOpen with
    | false => exact hy
    | true =>
      rw [if_neg (by decide), hc]
      refine ⟨hy.1, fun c' hc' => ?_⟩
      -- the connections are the old ones, but for the one just closed: it was open, so it had published nothing
      rcases List.mem_or_eq_of_mem_set hc' with h | rfl
      · exact hy.2 c' h
      · have := (hy.2 c (List.mem_of_getElem? hi)).1 ho
        exact ⟨nofun, fun _ => by simp [this]⟩

theorem deliverAll_inv (recv : Bytes → Res (Option Err)) (hr : ∀ s, ∃ c, recv s = .ok c) :
    ∀ (ds : List (Nat × Bytes)) (y : Sys), OneCauseEach y → OneCauseEach (deliverAll recv y ds) := by
  intro ds
  induction ds with
  | nil => intro y h; exact h
  | cons d t ih =>
    intro y h
    obtain ⟨i, s⟩ := d
    exact ih _ (recvOn_inv recv hr i s y h)

theorem stomp_recv_total (cb : Bytes → Bool) (w : Stomp) (m : Bytes) :
    ∃ w', Stomp.recv cb w m = .ok w' ∧ w'.alive = w.alive := by
  unfold Stomp.recv
  by_cases ha : (!w.alive) = true
  · exact ⟨w, if_pos ha, rfl⟩
  · rw [if_neg ha]
    by_cases h4 : m.length < 4
    · exact ⟨w, if_pos h4, rfl⟩
    · rw [if_neg h4, sliceFrom_ok m 4 (by omega) (by omega)]
      dsimp only
      by_cases hc : cb (m.drop (4 : Int).toNat) = true
      · exact ⟨_, if_pos hc, rfl⟩
      · exact ⟨_, if_neg hc, rfl⟩

theorem stomp_recvAll_total (cb : Bytes → Bool) : ∀ (ms : List Bytes) (w : Stomp),
    ∃ w', Stomp.recvAll cb w ms = .ok w' ∧ w'.alive = w.alive := by
  intro ms
  induction ms with
  | nil => intro w; exact ⟨w, rfl, rfl⟩
  | cons m t ih =>
    intro w
    obtain ⟨w1, h1, ha⟩ := stomp_recv_total cb w m
    obtain ⟨w2, h2, hb⟩ := ih w1
    refine ⟨w2, ?_, by rw [hb, ha]⟩
    simp only [Stomp.recvAll, h1, h2]

theorem stomp_recv_wellformed (cb : Bytes → Bool) (w : Stomp) (m : Bytes) (ha : w.alive = true)
    (h4 : 4 ≤ m.length) (hcb : cb (m.drop 4) = true) :
    Stomp.recv cb w m = .ok { w with delivered := w.delivered + 1, acked := w.acked + 1 } := by
  unfold Stomp.recv
  rw [ha, if_neg (by decide), if_neg (by omega), sliceFrom_ok m 4 (by omega) (by omega)]
  exact if_pos hcb

end FV.Recv2
