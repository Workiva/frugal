/-
`Field`, `FieldList` and the struct-like rules of the regenerated grammar, for every styling.
The numerals in the fuel bounds: see the note on bounds in `Proofs/Peg.lean` (section on combinators).
-/
import FV.Proofs.PegTypes
import FV.Proofs.PegDecls

namespace FV.PegIdl
open FV.Peg FV.Generated FV.Act FV.Syn

def kwRequired : List Char := ['r', 'e', 'q', 'u', 'i', 'r', 'e', 'd']
def kwOptional : List Char := ['o', 'p', 't', 'i', 'o', 'n', 'a', 'l']

theorem mod_none (x : List Char) (h : ∀ kw ∈ [kwRequired, kwOptional], matchLit false kw x = none) :
    ParsesTo grammar (.lab "mod" (.opt (.ref "FieldModifier"))) x (.lab "mod" .nil) x 10 :=
  (ParsesTo.lab (ParsesTo.opt_none (FailsOn.ref lk_FieldModifier (FailsOn.act (FailsOn.lits h))))).mono (by decide)

/-- `ConstValue` on an integer literal: the alternatives tried before `IntConstant` (`Literal`, `BoolConstant`,
`DoubleConstant` when no `.` follows) fail on it. -/
theorem constInt_parses (i : SInt) (hok : i.Ok) (y : List Char) (hy : StopsAt digitC y) (hdot : HeadP (fun c => c ≠ '.') y) :
    ParsesTo grammar (.ref "ConstValue") (i.text ++ y) i.tree y (i.ds.length + 35) := by
  have hf := i.head hok y
  have hdig := ParsesTo.star (StarRun.chars digit_matcher (i.d :: i.ds) y (List.forall_mem_cons.2 ⟨hok.2.1, hok.2.2.1⟩) hy)
  have hd : FailsOn grammar (.ref "DoubleConstant") (i.text ++ y) (i.ds.length + 14) := by
    simpa [SInt.text] using (FailsOn.ref lk_DoubleConstant (FailsOn.act (FailsOn.seq (k := i.ds.length + 5) (SeqFail.tail
      ((signOpt_parses (cs := ['+', '-']) (by decide) hok.1 hok.2.1 (i.ds ++ y)).mono (by omega))
      (SeqFail.tail (hdig.mono (by simp)) (SeqFail.head ((FailsOn.lit_head hdot).mono (by omega)))))))).mono (by fuel_le : _ ≤ i.ds.length + 14)
  have hq : FailsOn grammar (.ref "Literal") (i.text ++ y) 12 :=
    FailsOn.ref lk_Literal (FailsOn.act (FailsOn.choice (k := 6) fun e he => by
      simp only [List.mem_cons, List.mem_nil_iff, or_false] at he
      rcases he with rfl | rfl <;>
        exact FailsOn.seq (k := 1) (SeqFail.head (FailsOn.lit_head (hf.mono fun _ h => ne_of_class h (by decide))))))
  have hb : FailsOn grammar (.ref "BoolConstant") (i.text ++ y) 7 :=
    FailsOn.ref lk_BoolConstant (FailsOn.act (FailsOn.lits (kws := [['t', 'r', 'u', 'e'], ['f', 'a', 'l', 's', 'e']]) fun kw hkw => by
      simp only [List.mem_cons, List.mem_nil_iff, or_false] at hkw
      rcases hkw with rfl | rfl <;> exact matchLit_head (hf.mono fun _ h => ne_of_class h (by decide))))
  exact (ParsesTo.ref lk_ConstValue (ParsesTo.choice (k := i.ds.length + 14)
    (ChoiceRun.tail (hq.mono (by omega))
    (ChoiceRun.tail (hb.mono (by omega))
    (ChoiceRun.tail hd (ChoiceRun.head ((intconst_parses i hok y hy).mono (by omega)))))))).mono (by fuel_le)

/-- A gap of `_`, when it is not empty, separates a type from what follows. -/
theorem UGapText.sepOk {g : List Char} (hg : UGapText g) (hne : g ≠ []) (y : List Char) : SepOk (g ++ y) :=
  HeadP.append_of hg.toUU.head (fun c h => ⟨nonTok_not_idPart h, (ne_of_class (by decide) h).symm,
    (ne_of_class (by decide) h).symm⟩) fun e => absurd e hne


/-- A written field. -/
structure SField where
  doc : Option SDoc
  id : SInt
  g1 : List Char                        -- `_` before ':'
  g2 : List Char                        -- `_` after ':'
  mod : Option (List Char × List Char)  -- `required`/`optional` and the gap of `_` after it
  ty : STy
  g4 : List Char                        -- `_` between type and name (not empty)
  c : Char
  s : List Char
  g5 : List Char                        -- `__` after the name
  dflt : Option SAssign                 -- `=` gap integer gap
  sep : Option Char

namespace SField

/-- The text from the default value on: `= value`, separator, `rest`. -/
def tE (f : SField) (rest : List Char) : List Char :=
  match f.dflt with
  | none => sepText f.sep ++ rest
  | some a => '=' :: (a.g2 ++ (a.int.text ++ (a.g3 ++ (sepText f.sep ++ rest))))

/-- The text from the type on. -/
def tC (f : SField) (rest : List Char) : List Char :=
  f.ty.render ++ (f.g4 ++ (f.c :: f.s ++ (f.g5 ++ f.tE rest)))

/-- The text from the modifier on. -/
def tB (f : SField) (rest : List Char) : List Char :=
  match f.mod with
  | none => f.tC rest
  | some (kw, g3) => kw ++ (g3 ++ f.tC rest)

/-- The text, followed by `rest`. -/
def renderK (f : SField) (rest : List Char) : List Char :=
  docText f.doc ++ (f.id.text ++ (f.g1 ++ (':' :: (f.g2 ++ f.tB rest))))

def Ok (f : SField) : Prop :=
  DocOk f.doc ∧ f.id.Ok ∧ UGapText f.g1 ∧ UGapText f.g2 ∧
  (match f.mod with
   | none => matchLit false kwRequired f.ty.render = none ∧ matchLit false kwOptional f.ty.render = none
   | some (kw, g3) => (kw = kwRequired ∨ kw = kwOptional) ∧ UGapText g3) ∧
  f.ty.Ok ∧ UGapText f.g4 ∧ f.g4 ≠ [] ∧ idStart f.c = true ∧ (∀ x ∈ f.s, idPart x = true) ∧ UUGapText f.g5 ∧
  (match f.dflt with
   | none => True
   | some a => UGapText a.g2 ∧ a.int.Ok ∧ UGapText a.g3) ∧
  SepOkC f.sep

def End (f : SField) (rest : List Char) : Prop :=
  ItemEnd f.sep rest ∧
  (f.sep = none →
    match f.dflt with
    | none => UUStop rest ∧ HeadP (fun c => c ≠ '=') rest ∧ (f.g5 = [] → StopsAt idPart rest)
    | some a => (a.g3 = [] → StopsAt digitC rest ∧ HeadP (fun c => c ≠ '.') rest))

def modValue (f : SField) : Mod :=
  match f.mod with
  | none => .dflt
  | some (kw, _) => if kw = kwRequired then .required else .optional

/-- The field denoted. -/
def erase (f : SField) : Field :=
  { doc := docValue f.doc, id := f.id.value, mod := f.modValue, name := f.c :: f.s, ty := f.ty.erase,
    dflt := f.dflt.map (fun a => CV.int a.int.value), anns := [] }

def cost (f : SField) : Nat :=
  2 * (docText f.doc).length + f.id.ds.length + 2 * f.g1.length + 2 * f.g2.length +
    (match f.mod with | none => 0 | some (_, g3) => 2 * g3.length) + f.ty.cost + 2 * f.g4.length + f.s.length + 2 * f.g5.length +
    (match f.dflt with | none => 0 | some a => 2 * a.g2.length + a.int.ds.length + 2 * a.g3.length) + 200

end SField

theorem SField.cost_eq (f : SField) :
    f.cost = 2 * (docText f.doc).length + f.id.ds.length + 2 * f.g1.length + 2 * f.g2.length +
      (match f.mod with | none => 0 | some (_, g3) => 2 * g3.length) + f.ty.cost + 2 * f.g4.length + f.s.length + 2 * f.g5.length +
      assignW f.dflt + 200 := by
  cases h : f.dflt <;> simp [SField.cost, assignW, h]

theorem SField.tE_eq (f : SField) (rest : List Char) : f.tE rest = assignK f.dflt f.sep rest := by
  cases h : f.dflt <;> simp [SField.tE, assignK, h]

theorem evCV_int (i : SInt) (k : Nat) : evCV (k + 1) i.tree = some (.int i.value) := by
  simp [evCV, tagOf, SInt.tree]
  rfl

theorem evCV_int_tyFuel (i : SInt) (T : Tree) : evCV (tyFuel T) i.tree = some (.int i.value) :=
  evCV_int i ((textOf T).length + 1)

theorem unlab_intTree (i : SInt) : unlab i.tree = i.tree := rfl

/-- The chunk `mod:FieldModifier? _` of Field. -/
theorem fieldMod_parses (f : SField) (rest : List Char)
    (hmod : match f.mod with
      | none => matchLit false kwRequired f.ty.render = none ∧ matchLit false kwOptional f.ty.render = none
      | some (kw, g3) => (kw = kwRequired ∨ kw = kwOptional) ∧ UGapText g3)
    (hsep : SepOk (f.g4 ++ (f.c :: f.s ++ (f.g5 ++ f.tE rest)))) (hC : UHead (f.tC rest)) :
    ∃ tm ts, SeqRun grammar ((match f.mod with | none => 0 | some (_, g3) => 2 * g3.length) + 70) [.lab "mod" (.opt (.ref "FieldModifier")), .ref "_"]
      (f.tB rest) [.lab "mod" tm, .seq ts] (f.tC rest) ∧ evMod tm = f.modValue ∧ UHead (f.tB rest) := by
  cases hm : f.mod with
  | none =>
    rw [hm] at hmod
    obtain ⟨ts, hu⟩ := u_consumes [] (f.tC rest) (IsGap.nil _) hC
    refine ⟨.nil, ts, ?_, by simp [evMod, isNil, SField.modValue, hm], by simpa [SField.tB, hm] using hC⟩
    simpa [SField.tB, hm] using SeqRun.cons_le (mod_none (f.tC rest) fun kw hkw =>
      matchLit_no_straddle _ _ _ (by revert kw; decide) hsep (by
        simp only [List.mem_cons, List.mem_nil_iff, or_false] at hkw
        rcases hkw with rfl | rfl
        · exact hmod.1
        · exact hmod.2)) (by decide) (SeqRun.cons hu SeqRun.nil)
  | some p =>
    obtain ⟨kw, g3⟩ := p
    rw [hm] at hmod
    obtain ⟨ts, hu⟩ := u_consumes g3 (f.tC rest) hmod.2.isGap hC
    refine ⟨.act "FieldModifier1" kw (.text kw), ts, ?_, ?_, ?_⟩
    · have hp := ParsesTo.ref lk_FieldModifier (ParsesTo.act (ParsesTo.choice
        (ChoiceRun.lits (kws := [kwRequired, kwOptional]) (x := g3 ++ f.tC rest) (by simpa using hmod.1) (by
          rcases hmod.1 with rfl | rfl <;> decide))))
      rw [consumed_append] at hp
      simpa [SField.tB, hm] using SeqRun.cons_le (ParsesTo.lab (n := "mod") (ParsesTo.opt_some hp))
        (by simp) (SeqRun.cons hu SeqRun.nil)
    · rcases hmod.1 with rfl | rfl <;> simp [evMod, isNil, textOf, SField.modValue, hm, kwRequired, kwOptional]
    · simp only [SField.tB, hm]
      rcases hmod.1 with rfl | rfl <;> exact HeadP.cons (by decide)

theorem field_parses (f : SField) (hok : f.Ok) (rest : List Char) (hend : f.End rest) :
    ∃ t, ParsesTo grammar (.ref "Field") (f.renderK rest) t rest (f.cost + 30) ∧ unlab t = t ∧ evField t = some f.erase := by
  obtain ⟨hdoc, hid, hg1, hg2, hmod, hty, hg4, hg4ne, hc, hs, hg5, hdf, hsep⟩ := hok
  obtain ⟨hie, hend2⟩ := hend
  -- what follows the name and its gap
  have hnone : f.dflt = none → f.sep = none → UUStop rest ∧ HeadP (fun c => c ≠ '=') rest ∧ (f.g5 = [] → StopsAt idPart rest) := fun hd h => by
    have := hend2 h; rwa [hd] at this
  -- `def:('=' _ ConstValue)? _ annotations? ListSeparator?`
  obtain ⟨tdf, ts5, tsep, hDE, hdfshape⟩ := assignTail_parses "def" "ConstValue" f.dflt f.sep hsep rest hie hdf
    (fun hd h => (hnone hd h).2.1) fun a ha hint hg3 => by
      have he := fun h hg => by have := hend2 h; rw [ha] at this; exact this hg
      exact constInt_parses a.int hint _
        (stops_after_gap (fun _ => nonTok_not_digit) hg3.toUU fun hg => sepText_head f.sep hsep rest _ (by decide) fun h => (he h hg).1)
        (HeadP.append_of hg3.toUU.head (fun _ h => (ne_of_class (by decide) h).symm) fun hg =>
          sepText_head f.sep hsep rest _ (by decide) fun h => (he h hg).2)
  rw [← f.tE_eq rest] at hDE
  have hE_stop : UUStop (f.tE rest) := by
    rw [f.tE_eq]
    cases hd : f.dflt with
    | some a => exact TokHead.uustop (HeadP.cons (by decide))
    | none =>
      cases hs' : f.sep with
      | some c => rw [hs'] at hsep; rcases (hsep : c = ',' ∨ c = ';') with rfl | rfl <;> exact TokHead.uustop (HeadP.cons (by decide))
      | none => exact (hnone hd hs').1
  -- `typ:FieldType _ name:Identifier __`
  have hR_tok : TokHead (f.c :: f.s ++ (f.g5 ++ f.tE rest)) := HeadP.cons (idPart_tok (idStart_idPart hc))
  have hsep4 := hg4.sepOk hg4ne (f.c :: f.s ++ (f.g5 ++ f.tE rest))
  obtain ⟨tt, mid, ts3, hT, hU3, htyev⟩ := typeThenGap f.ty hty f.g4 _ hg4.isGap hsep4 (HeadP.cons (ne_of_class hc (by decide))) hR_tok
  have hN := ParsesTo.labA (n := "name") (identifier_parses f.c f.s (f.g5 ++ f.tE rest) hc hs
    (stops_after_gap (fun _ => nonTok_not_idPart) hg5 fun hg => by
      rw [f.tE_eq]; exact assignK_head f.dflt f.sep hsep rest (by decide) fun hd h => (hnone hd h).2.2 hg))
  obtain ⟨ts4, hU4⟩ := uu_consumes f.g5 (f.tE rest) hg5.isGap hE_stop
  -- `mod:FieldModifier? _`
  obtain ⟨c0, r0, hr0, hc0⟩ := f.ty.render_head hty
  obtain ⟨tm, ts2, hB, hmodv, hB_uhead⟩ := fieldMod_parses f rest hmod hsep4 (by
    simp only [SField.tC, hr0]; exact HeadP.cons (tokC_not_ws (idPart_tok hc0)))
  -- `docstr id _ ':' _`
  obtain ⟨td, hD, hdv⟩ := docOpt_parses f.doc hdoc (f.id.text ++ (f.g1 ++ (':' :: (f.g2 ++ f.tB rest)))) ((f.id.head hid _).mono fun _ => intStart_tok)
  have hI := ParsesTo.labA (n := "id") (intconst_parses f.id hid (f.g1 ++ (':' :: (f.g2 ++ f.tB rest)))
    (stops_after_gap (fun _ => nonTok_not_digit) hg1.toUU fun _ => HeadP.cons (by decide)))
  obtain ⟨ts0, hU0⟩ := u_consumes f.g1 (':' :: (f.g2 ++ f.tB rest)) hg1.isGap (HeadP.cons (by decide))
  obtain ⟨ts1, hU1⟩ := u_consumes f.g2 (f.tB rest) hg2.isGap hB_uhead
  have hp := ParsesTo.ref lk_Field (ParsesTo.act (ParsesTo.seq
    (SeqRun.consA hD (by decide) (SeqRun.consA hI (by decide) (SeqRun.consA hU0 (by decide) (SeqRun.consC (ParsesTo.lit_append [':'] _) (by decide)
    (SeqRun.consA hU1 (by decide) (SeqRun.appendA (c := 111)
      (SeqRun.appendA (SeqRun.consA hN (by decide) (SeqRun.consA hU4 (by decide) (SeqRun.padC (by decide : 77 ≤ 111) hDE))) (Nat.le_refl _)
        (SeqRun.cons_le (k := f.ty.cost + 2 * f.g4.length + 111) (ParsesTo.lab (n := "typ") hT) (by omega) (SeqRun.cons_le hU3 (by omega) SeqRun.nil)))
      (by decide) hB))))))))
  refine ⟨_, hp.mono (by rw [f.cost_eq]; fuel_le), rfl, ?_⟩
  cases hd : f.dflt with
  | none =>
    rw [hd] at hdfshape
    subst hdfshape
    simp [evField, FV.Act.get, FV.Act.body, findLab, isNil, htyev, hdv, hmodv, evIdent, idTree, textOf, evAnns, SField.erase, hd, evInt_tree]
  | some a =>
    rw [hd] at hdfshape
    obtain ⟨tg, rfl⟩ := hdfshape
    simp [evField, FV.Act.get, FV.Act.body, findLab, isNil, htyev, hdv, hmodv, evIdent, idTree, textOf, evAnns, SField.erase, hd, evInt_tree,
      nth, kids, unlab_intTree, evCV_int_tyFuel]

/-- A character that cannot start a field: not a digit, sign or `/`. -/
def NoFieldStart (x : List Char) : Prop := HeadP (fun c => (digitC c = false ∧ c ≠ '-' ∧ c ≠ '+') ∧ c ≠ '/') x

theorem field_fails (x : List Char) (hx : NoFieldStart x) : FailsOn grammar (.ref "Field") x 50 := by
  have hi : FailsOn grammar (.ref "IntConstant") x 9 :=
    FailsOn.ref lk_IntConstant (FailsOn.act (FailsOn.seq (k := 3) (SeqFail.tail
      ((ParsesTo.opt_none (CharMatcher.cls.fails (hx.mono fun c h => clsMatches_of_ne (by simp [h.1.2.1, h.1.2.2])))).mono (by decide))
      (SeqFail.head (FailsOn.plus (digit_matcher.fails (hx.mono fun _ h => h.1.1)))))))
  exact (FailsOn.ref lk_Field (FailsOn.act (FailsOn.seq (k := 14) (SeqFail.tail
    (docOpt_none (hx.mono fun _ h => h.2)) (SeqFail.head ((FailsOn.lab hi).mono (by decide))))))).mono (by decide)

/-- The text of a list of written fields, each followed by its gap of `__`, then `tail`. -/
def fieldsK : List (SField × List Char) → List Char → List Char
  | [], tail => tail
  | (f, g) :: r, tail => f.renderK (g ++ fieldsK r tail)

def FieldsOk : List (SField × List Char) → List Char → Prop
  | [], _ => True
  | (f, g) :: r, tail => f.Ok ∧ UUGapText g ∧ f.End (g ++ fieldsK r tail) ∧ UUStop (fieldsK r tail) ∧ FieldsOk r tail

def fieldsCost : List (SField × List Char) → Nat
  | [] => 60
  | (f, g) :: r => f.cost + 2 * g.length + 110 + fieldsCost r

theorem fields_run : ∀ (items : List (SField × List Char)) (tail : List Char), FieldsOk items tail → NoFieldStart tail →
    ∃ ts, StarRun grammar (.seq [.ref "Field", .ref "__"]) (fieldsCost items) (fieldsK items tail) ts tail ∧ ts.length ≤ fieldsCost items ∧
      evFieldsAux ts = some (items.map fun p => p.1.erase)
  | [], tail, _, ht => ⟨[], .done ((FailsOn.seq (SeqFail.head (field_fails tail ht))).mono (by decide)), by decide, rfl⟩
  | (f, g) :: r, tail, ⟨hf, hg, hend, hstop, hr⟩, ht => by
    obtain ⟨ts, hrun, hlen, hval⟩ := fields_run r tail hr ht
    obtain ⟨tv, hp, hul, hev⟩ := field_parses f hf (g ++ fieldsK r tail) hend
    obtain ⟨tsg, hstep⟩ := item_step hp (by decide) hg hstop hrun (by simp [fieldsCost] : _ ≤ fieldsCost ((f, g) :: r))
      (by simp [fieldsCost]; omega)
    refine ⟨_, hstep, by simp [fieldsCost]; omega, ?_⟩
    simp [evFieldsAux, nth_item, hul, hev, hval]

theorem fieldList_parses (items : List (SField × List Char)) (tail : List Char) (hok : FieldsOk items tail) (ht : NoFieldStart tail) :
    ∃ t, ParsesTo grammar (.ref "FieldList") (fieldsK items tail) t tail (2 * fieldsCost items + 10) ∧
      evFields t = some (items.map fun p => p.1.erase) := by
  obtain ⟨ts, hrun, hlen, hval⟩ := fields_run items tail hok ht
  refine ⟨_, (ParsesTo.ref lk_FieldList (ParsesTo.act (ParsesTo.lab (n := "fields") (ParsesTo.star hrun)))).mono
    (by omega), ?_⟩
  simp [evFields, FV.Act.get, FV.Act.body, kids, hval]

/-- A written struct-like body: name gb `{` gc fields `}` gd ge `;`. -/
structure SStructLike where
  c : Char
  s : List Char
  gb : List Char
  gc : List Char
  items : List (SField × List Char)
  gd : List Char
  ge : List Char

namespace SStructLike

def closeK (e : SStructLike) (rest : List Char) : List Char := '}' :: (e.gd ++ (e.ge ++ (';' :: rest)))

def renderK (e : SStructLike) (rest : List Char) : List Char :=
  e.c :: e.s ++ (e.gb ++ ('{' :: (e.gc ++ fieldsK e.items (e.closeK rest))))

def Ok (e : SStructLike) (rest : List Char) : Prop :=
  idStart e.c = true ∧ (∀ x ∈ e.s, idPart x = true) ∧ UUGapText e.gb ∧ UUGapText e.gc ∧
  UUStop (fieldsK e.items (e.closeK rest)) ∧ FieldsOk e.items (e.closeK rest) ∧
  UGapText e.gd ∧ UUGapText e.ge ∧ UHead e.ge

/-- `2 * fieldsCost`: as for `SEnum.cost` (`fields_run`). -/
def cost (e : SStructLike) : Nat :=
  2 * fieldsCost e.items + e.s.length + 2 * e.gb.length + 2 * e.gc.length + 2 * e.gd.length + 2 * e.ge.length + 100

/-- The struct denoted (kind and doc comment are added by the enclosing rules). -/
def erase (e : SStructLike) : Struct :=
  { doc := none, name := e.c :: e.s, fields := e.items.map fun p => p.1.erase, anns := [] }

end SStructLike

theorem structLike_parses (e : SStructLike) (rest : List Char) (hok : e.Ok rest) :
    ∃ t, ParsesTo grammar (.ref "StructLike") (e.renderK rest) t rest (e.cost + 30) ∧ evStructLike t = some e.erase := by
  obtain ⟨hc, hs, hgb, hgc, hstop, hbody, hgd, hge, hgeh⟩ := hok
  obtain ⟨tf, hfl, hfv⟩ := fieldList_parses e.items (e.closeK rest) hbody (HeadP.cons (by decide))
  obtain ⟨t4, t6, t9, t11, hblock⟩ := block_parses "fields" (.ref "FieldList") e.c e.s e.gb e.gc _ e.gd e.ge rest hc hs hgb hgc hstop hgd hge hgeh
    hfl (by decide)
  refine ⟨_, (ParsesTo.ref lk_StructLike (ParsesTo.act (ParsesTo.seq hblock))).mono (by simp only [SStructLike.cost]; fuel_le), ?_⟩
  simp [evStructLike, FV.Act.get, FV.Act.body, findLab, hfv, evIdent, idTree, textOf, evAnns, isNil, SStructLike.erase]

/-- The keyword rule in front: `struct` / `exception` / `union`, a gap of `_`, the body. -/
theorem structKw_parses (rule tag : String) (kw : List Char)
    (hl : grammar.lookup rule = some (.act tag (.seq [.lit kw false, .ref "_", .lab "st" (.ref "StructLike")])))
    (ga : List Char) (hga : UGapText ga) (e : SStructLike) (rest : List Char) (hok : e.Ok rest) :
    ∃ t, ParsesTo grammar (.ref rule) (kw ++ (ga ++ e.renderK rest)) t rest (e.cost + 2 * ga.length + 110) ∧
      evStructLike (FV.Act.get t "st") = some e.erase := by
  obtain ⟨ts, hp, hev⟩ := structLike_parses e rest hok
  obtain ⟨tg, hu⟩ := u_consumes ga (e.renderK rest) hga.isGap (HeadP.cons (tokC_not_ws (idPart_tok (idStart_idPart hok.1))))
  refine ⟨_, (ParsesTo.ref hl (ParsesTo.act (ParsesTo.seq (SeqRun.consC (ParsesTo.lit_append kw _) (by decide)
    (SeqRun.consA hu (by decide) (SeqRun.consA (ParsesTo.labA (n := "st") hp) (by decide) (SeqRun.nilC 70))))))).mono (by fuel_le), ?_⟩
  simpa [FV.Act.get, FV.Act.body, findLab] using hev

end FV.PegIdl
