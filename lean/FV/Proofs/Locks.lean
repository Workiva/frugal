/-
Soundness of the closure check of FV.Model.Locks: if a table of masks passes `closed`, then for every
call path f →* h (through resolved calls) every mutex acquired by h is in f's mask. Hence `noNested`,
which only looks at masks, really excludes every nested acquisition along every call path — whatever
number of rounds `closure` ran.
-/
import FV.Model.Locks

namespace FV.Locks

/-- `f` reaches `h` through the recorded call relation. -/
inductive Reach (fs : List Fn) : Nat → Nat → Prop
  | refl (f : Nat) : Reach fs f f
  | step {f g h : Nat} (fn : Fn) : fs[f]? = some fn → g ∈ fn.calls → Reach fs g h → Reach fs f h

theorem testBit_of_and_eq {a b : Nat} (h : a &&& b = a) (i : Nat) (ha : a.testBit i = true) :
    b.testBit i = true := by
  have := Nat.testBit_and a b i
  rw [h, ha] at this
  simpa using this.symm

theorem testBit_bit (m : Nat) : (bit m).testBit m = true := by
  simp [bit, Nat.one_shiftLeft]

theorem testBit_foldl (ms : List Nat) : ∀ (init m : Nat), (init.testBit m = true ∨ m ∈ ms) →
    (ms.foldl (fun a m => a ||| bit m) init).testBit m = true := by
  induction ms with
  | nil => intro init m h; rcases h with h | h; exact h; cases h
  | cons x t ih =>
    intro init m h
    simp only [List.foldl_cons]
    apply ih
    rcases h with h | h
    · left; simp [Nat.testBit_or, h]
    · rcases List.mem_cons.mp h with e | h
      · left; subst e; simp [Nat.testBit_or, testBit_bit]
      · right; exact h

theorem testBit_maskOf {ms : List Nat} {m : Nat} (h : m ∈ ms) : (maskOf ms).testBit m = true :=
  testBit_foldl ms 0 m (Or.inr h)

theorem id_of_wellNumbered {fs : List Fn} (hw : wellNumbered fs = true) {i : Nat} {fn : Fn}
    (h : fs[i]? = some fn) : fn.id = i := by
  unfold wellNumbered at hw
  simp only [Bool.and_eq_true, List.all_eq_true] at hw
  have hm : (fn, i) ∈ fs.zipIdx := by
    rw [List.mem_zipIdx_iff_getElem?]
    simpa using h
  have := hw.1 (fn, i) hm
  simpa using this

theorem closed_sound (fs : List Fn) (r : List Nat) (hw : wellNumbered fs = true) (hc : closed fs r = true)
    {f h : Nat} (hr : Reach fs f h) :
    ∀ fnh, fs[h]? = some fnh → ∀ m ∈ fnh.acquires, (r.getD f 0).testBit m = true := by
  unfold closed at hc
  simp only [Bool.and_eq_true, List.all_eq_true, beq_iff_eq] at hc
  -- what `closed` says of the function at position `f` (its id is `f`)
  have at_ := fun f fn (hf : fs[f]? = some fn) => id_of_wellNumbered hw hf ▸ hc.2 fn (List.mem_of_getElem? hf)
  induction hr with
  | refl f => exact fun fnh hf m hm => testBit_of_and_eq (at_ f fnh hf).1 m (testBit_maskOf hm)
  | step fn hf hg _ ih => exact fun fnh hh m hm => testBit_of_and_eq ((at_ _ fn hf).2 _ hg) m (ih fnh hh m hm)

/-! `ok`, `rootsAvoid` and `acyclic` all start with the same two conjuncts, which do not mention the tags: the
closure table is well-numbered and closed. On the regenerated facts nearly all of the kernel's work goes into
that part (`closed` mentions its table many times, and the kernel evaluates `closure fs` anew at each), so it is
split off here to be decided once (`FV.Generated.Locks.facts_closed`); what a property adds for its own tags is
small. -/

theorem ok_of_closed {tags mutexTags : List Nat} {fs : List Fn}
    (hc : (wellNumbered fs && closed fs (closure fs)) = true)
    (h : (noNested tags mutexTags fs (closure fs) && noLeak tags mutexTags fs) = true) :
    ok tags mutexTags fs = true := by
  simp only [ok, Bool.and_eq_true] at *
  exact ⟨⟨hc, h.1⟩, h.2⟩

theorem rootsAvoid_of_closed {tags mutexTags : List Nat} {fs : List Fn} {roots : List Nat}
    (hc : (wellNumbered fs && closed fs (closure fs)) = true)
    (h : (roots.all fun f => (List.range mutexTags.length).all fun m =>
      !(tags.contains (mutexTags.getD m 0)) || !(hasBit ((closure fs).getD f 0) m)) = true) :
    rootsAvoid tags mutexTags fs roots = true := by
  simp only [rootsAvoid, Bool.and_eq_true] at *
  exact ⟨hc, h⟩

/-- What `ok` establishes about every call path: a call made by `fn` under mutex `m` (of a relevant tag)
never reaches a function that acquires `m`. -/
theorem ok_no_nested_path (tags mutexTags : List Nat) (fs : List Fn) (hok : ok tags mutexTags fs = true)
    {fn : Fn} (hfn : fn ∈ fs) {m g h : Nat} (hheld : (m, g) ∈ fn.heldCalls)
    (hrel : relevant tags mutexTags m = true) (hr : Reach fs g h) {fnh : Fn} (hh : fs[h]? = some fnh) :
    m ∉ fnh.acquires := by
  unfold ok at hok
  simp only [Bool.and_eq_true] at hok
  obtain ⟨⟨⟨hw, hc⟩, hn⟩, _⟩ := hok
  intro hm
  have hbit := closed_sound fs (closure fs) hw hc hr fnh hh m hm
  unfold noNested at hn
  simp only [List.all_eq_true, Bool.and_eq_true] at hn
  have := (hn fn hfn).1 (m, g) hheld
  simp only [hasBit, hrel, Bool.not_true, Bool.false_or, Bool.not_eq_true'] at this
  rw [hbit] at this
  cases this

/-- What `rootsAvoid` establishes: from a root, NO call path reaches a function that acquires a mutex with
one of the tags. -/
theorem rootsAvoid_sound (tags mutexTags : List Nat) (fs : List Fn) (roots : List Nat)
    (hok : rootsAvoid tags mutexTags fs roots = true) {f h : Nat} (hf : f ∈ roots) (hr : Reach fs f h)
    {fnh : Fn} (hh : fs[h]? = some fnh) {m : Nat} (hm : m ∈ fnh.acquires) (hlt : m < mutexTags.length) :
    tags.contains (mutexTags.getD m 0) = false := by
  unfold rootsAvoid at hok
  simp only [Bool.and_eq_true, List.all_eq_true] at hok
  obtain ⟨⟨hw, hc⟩, hroots⟩ := hok
  have hbit := closed_sound fs (closure fs) hw hc hr fnh hh m hm
  have := hroots f hf m (List.mem_range.mpr hlt)
  simp only [hasBit, hbit, Bool.not_true, Bool.or_false, Bool.not_eq_true'] at this
  exact this

/-! ### Lock order -/

/-- `m'` is acquired under `m` somewhere: lexically, or by a function reachable from a call made under `m`. -/
def Edge (fs : List Fn) (m m' : Nat) : Prop :=
  ∃ fn ∈ fs, (m, m') ∈ fn.heldAcq ∨
    ∃ g h fnh, (m, g) ∈ fn.heldCalls ∧ Reach fs g h ∧ fs[h]? = some fnh ∧ m' ∈ fnh.acquires

/-- A non-empty chain of order edges. -/
inductive Chain (fs : List Fn) : Nat → Nat → Prop
  | one {a b : Nat} : Edge fs a b → Chain fs a b
  | cons {a b c : Nat} : Edge fs a b → Chain fs b c → Chain fs a c

/-- What `acyclic` establishes: no mutex of a relevant tag lies on a cycle of order edges — over EVERY call
path of the recorded call graph. -/
theorem acyclic_sound (tags mutexTags : List Nat) (fs : List Fn) (hac : acyclic tags mutexTags fs = true)
    {m : Nat} (hrel : relevant tags mutexTags m = true) : ¬ Chain fs m m := by
  unfold acyclic at hac
  simp only [Bool.and_eq_true] at hac
  obtain ⟨⟨⟨⟨⟨hw, hc⟩, hin⟩, hcov⟩, htr⟩, hself⟩ := hac
  generalize closure fs = r at hc hcov htr hself
  generalize orderIter (orderSucc mutexTags.length fs r) 6 (orderSucc mutexTags.length fs r) = t at hcov htr hself
  unfold inRange at hin
  unfold orderCovers at hcov
  unfold orderTrans at htr
  simp only [Bool.and_eq_true, Bool.or_eq_true, Bool.not_eq_true', List.all_eq_true, decide_eq_true_eq, beq_iff_eq, hasBit] at hin hcov htr hself
  -- an edge is covered by t, and its ends are in range
  have hedge : ∀ a b, Edge fs a b → (t.getD a 0).testBit b = true ∧ a < mutexTags.length ∧ b < mutexTags.length := by
    intro a b ⟨fn, hfn, h⟩
    rcases h with h | ⟨g, h, fnh, hheld, hreach, hh, hacq⟩
    · exact ⟨(hcov fn hfn).2 (a, b) h, (hin fn hfn).1.2 (a, b) h⟩
    · exact ⟨testBit_of_and_eq ((hcov fn hfn).1 (a, g) hheld) b (closed_sound fs r hw hc hreach fnh hh b hacq),
        (hin fn hfn).2 (a, g) hheld, (hin fnh (List.mem_of_getElem? hh)).1.1 b hacq⟩
  -- a chain is covered by t
  have hchain : ∀ a c, Chain fs a c → (t.getD a 0).testBit c = true ∧ a < mutexTags.length := by
    intro a c hch
    induction hch with
    | one e => exact ⟨(hedge _ _ e).1, (hedge _ _ e).2.1⟩
    | cons e _ ih =>
      obtain ⟨hab, ha, hb⟩ := hedge _ _ e
      have := (htr _ (List.mem_range.mpr ha) _ (List.mem_range.mpr hb)).resolve_left (ne_false_of_eq_true hab)
      exact ⟨testBit_of_and_eq this _ ih.1, ha⟩
  intro hcyc
  obtain ⟨hbit, hlt⟩ := hchain m m hcyc
  exact absurd hbit (ne_true_of_eq_false ((hself m (List.mem_range.mpr hlt)).resolve_left (ne_false_of_eq_true hrel)))

end FV.Locks
