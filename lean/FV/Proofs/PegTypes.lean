/-
`FieldType` of the regenerated grammar: base types, named types and arbitrarily nested
containers with white space inside the brackets, by induction over the (styled) type.
The numerals in the fuel bounds: see the note on bounds in `Proofs/Peg.lean` (section on combinators).
-/
import FV.Proofs.PegGaps

namespace FV.PegIdl
open FV.Peg FV.Generated FV.Act FV.Syn

/-- What may follow a type name: no identifier character, no `<` (would extend `map`/`set`/`list`
to a container opener), no `(` (would start annotations). -/
def SepOk (x : List Char) : Prop := ∀ c r, x = c :: r → idPart c = false ∧ c ≠ '<' ∧ c ≠ '('

theorem SepOk.noParen {x} (h : SepOk x) : NoParen x := fun c r hx => (h c r hx).2.2

/-- A keyword that is not a prefix of the name is not a prefix of the name followed by a separator. -/
theorem matchLit_no_straddle : ∀ (kw n x : List Char), (∀ c ∈ kw, idPart c = true ∨ c = '<') → SepOk x →
    matchLit false kw n = none → matchLit false kw (n ++ x) = none := by
  intro kw
  induction kw with
  | nil => intro n x _ _ h; cases n <;> simp [matchLit] at h
  | cons w ws ih =>
    intro n x hkw hx h
    cases n with
    | nil =>
      refine matchLit_head (HeadP.mono hx fun c hc e => ?_)
      subst e
      rcases (List.forall_mem_cons.1 hkw).1 with hw | hw
      · rw [hc.1] at hw; cases hw
      · exact hc.2.1 hw
    | cons a n' =>
      by_cases e : a = w
      · subst e
        simp only [matchLit, Bool.false_eq_true, if_false, if_true, List.cons_append] at h ⊢
        exact ih n' x (List.forall_mem_cons.1 hkw).2 hx h
      · simp [matchLit, e]

/-- The eight base type names of `BaseTypeName`. -/
def baseNames : List (List Char) :=
  [['b','o','o','l'], ['b','y','t','e'], ['i','1','6'], ['i','3','2'], ['i','6','4'], ['d','o','u','b','l','e'],
   ['s','t','r','i','n','g'], ['b','i','n','a','r','y']]

def kwCpp : List Char := ['c','p','p','_','t','y','p','e']
def kwMap : List Char := ['m','a','p','<']
def kwSet : List Char := ['s','e','t','<']
def kwList : List Char := ['l','i','s','t','<']

/-- Literals that are tried before `Identifier` in `FieldType`: the base type names, and the
openers of the container rules. -/
def typeKeywords : List (List Char) :=
  baseNames ++ [['c','p','p','_','t','y','p','e'], ['m','a','p','<'], ['s','e','t','<'], ['l','i','s','t','<']]

/-- None of those literals is a prefix of the text (the negation of the recorded finding's class). -/
def NoTypeKeywordPrefix (inp : List Char) : Prop := ∀ kw ∈ typeKeywords, matchLit false kw inp = none

/-- No type keyword is a prefix of the name. -/
def NoKw (n : List Char) : Prop := ∀ kw ∈ typeKeywords, matchLit false kw n = none

/-- Identifier shape: a start character followed by part characters. -/
def IdShape (n : List Char) : Prop := ∃ c t, n = c :: t ∧ idStart c = true ∧ ∀ x ∈ t, idPart x = true

/-- `FieldType` on a base type name, given what rule `_` does after it. -/
theorem fieldType_base_of {kw : List Char} (hkw : kw ∈ baseNames) {g rest : List Char} {ts : List Tree} {k : Nat}
    (hu : ParsesTo grammar (.ref "_") (g ++ rest) (.seq ts) rest k) (hk : 15 ≤ k) (hr : NoParen rest) :
    ParsesTo grammar (.ref "FieldType") (kw ++ (g ++ rest))
      (.act "FieldType1" (kw ++ g) (.lab "typ" (.act "BaseType1" (kw ++ g)
        (.seq [.lab "name" (.act "BaseTypeName1" kw (.text kw)), .seq ts, .lab "annotations" .nil])))) rest (k + 15) := by
  have hn := ParsesTo.ref lk_BaseTypeName (ParsesTo.act (ParsesTo.choice (ChoiceRun.lits (x := g ++ rest) hkw
    (by revert kw; decide))))
  have hb := ParsesTo.ref lk_BaseType (ParsesTo.act (ParsesTo.seq
    (SeqRun.cons_le (ParsesTo.lab (n := "name") hn) (by fuel_le) (SeqRun.cons hu
    (SeqRun.cons_le (ParsesTo.lab (n := "annotations") (noAnns rest hr)) (by omega) SeqRun.nil)))))
  have h := ParsesTo.ref lk_FieldType (ParsesTo.act (ParsesTo.lab (n := "typ") (ParsesTo.choice (ChoiceRun.head hb))))
  rw [consumed_append, consumed_of_eq _ (kw ++ g) rest (by simp)] at h
  exact h.mono (by fuel_le)

theorem evTy_base (tx tx' kw : List Char) (ts : List Tree) (k : Nat) :
    evTy (k + 1) (.act "FieldType1" tx (.lab "typ" (.act "BaseType1" tx' (.seq [
      .lab "name" (.act "BaseTypeName1" kw (.text kw)), .seq ts, .lab "annotations" .nil])))) = some (.base kw []) := by
  simp [evTy, FV.Act.get, FV.Act.body, tagOf, textOf, evAnns, isNil, findLab]

/-- What may follow a type in the texts considered: nothing, `>` or `,`. -/
def StopHead (rest : List Char) : Prop := ∀ c r, rest = c :: r → (c = '>' ∨ c = ',')

theorem StopHead.head {tail} (h : StopHead tail) : HeadP (fun c => (idPart c = false ∧ c ≠ '<' ∧ c ≠ '(') ∧ tokC c = true ∧ wsC c = false) tail :=
  HeadP.mono h fun _ hc => by rcases hc with rfl | rfl <;> decide

/-- The tree `FieldType` builds for a base type name without annotations. -/
def baseTree (kw : List Char) : Tree :=
  .act "FieldType1" kw (.lab "typ" (.act "BaseType1" kw (.seq [
    .lab "name" (.act "BaseTypeName1" kw (.text kw)), .seq [], .lab "annotations" .nil])))

theorem fieldType_base (kw : List Char) (hkw : kw ∈ baseNames) (rest : List Char) (h : StopHead rest) (F : Nat) (hF : 40 ≤ F) :
    parse F grammar "FieldType" (kw ++ rest) = .ok (baseTree kw) rest := by
  have := fieldType_base_of hkw (g := []) (ParsesTo.ref lk_U (ParsesTo.star (.done (uBody_fails (h.head.mono fun _ h => tokC_not_ws h.2.1)))))
    (by decide) (h.head.mono fun _ h => h.1.2.2)
  simpa [parse, baseTree] using this.mono (by decide) F hF

theorem evTy_baseTree (kw : List Char) (k : Nat) : evTy (k + 1) (baseTree kw) = some (.base kw []) :=
  evTy_base kw kw kw [] k

theorem baseType_fails (x : List Char) (h : ∀ kw ∈ baseNames, matchLit false kw x = none) : FailsOn grammar (.ref "BaseType") x 21 :=
  (FailsOn.ref lk_BaseType (FailsOn.act (FailsOn.seq (SeqFail.head (FailsOn.lab (FailsOn.ref lk_BaseTypeName
    (FailsOn.act (FailsOn.lits h)))))))).mono (by decide)

theorem cppOpt_none (x : List Char) (h : matchLit false kwCpp x = none) : ParsesTo grammar (.opt (.ref "CppType")) x .nil x 8 :=
  (ParsesTo.opt_none (FailsOn.ref lk_CppType (FailsOn.act (FailsOn.seq (SeqFail.head (FailsOn.lit h)))))).mono (by decide)

/-- `MapType` and `SetType` (`CppType?`, the opener `kw`, the rest `tl` of the rule) on a text that starts with neither. -/
theorem cppContainer_fails {n tag : String} {kw : List Char} {tl : List Expr}
    (hl : grammar.lookup n = some (.act tag (.seq (.opt (.ref "CppType") :: .lit kw false :: tl)))) (htl : tl.length ≤ 10)
    (x : List Char) (h1 : matchLit false kwCpp x = none) (h2 : matchLit false kw x = none) : FailsOn grammar (.ref n) x 24 :=
  (FailsOn.ref hl (FailsOn.act (FailsOn.seq (SeqFail.tail (cppOpt_none x h1) (SeqFail.head ((FailsOn.lit h2).mono (by decide))))))).mono
    (by fuel_le)

theorem listType_fails (x : List Char) (h2 : matchLit false kwList x = none) : FailsOn grammar (.ref "ListType") x 12 :=
  (FailsOn.ref lk_ListType (FailsOn.act (FailsOn.seq (SeqFail.head (FailsOn.lit h2))))).mono (by decide)

/-- `FieldType` on a named type: exactly the name is consumed (the gap stays). -/
theorem fieldType_named_parses (c : Char) (s x : List Char) (hc : idStart c = true) (hs : ∀ y ∈ s, idPart y = true)
    (hk : NoTypeKeywordPrefix (c :: s ++ x)) (hx : StopsAt idPart x) :
    ParsesTo grammar (.ref "FieldType") (c :: s ++ x) (.act "FieldType1" (c :: s) (.lab "typ" (idTree c s))) x (s.length + 40) := by
  have h1 := baseType_fails _ fun kw h => hk kw (List.mem_append_left _ h)
  have hcpp := hk kwCpp (by decide)
  have h2 : FailsOn grammar (.ref "ContainerType") (c :: s ++ x) 32 :=
    FailsOn.ref lk_ContainerType (FailsOn.act (FailsOn.lab (FailsOn.choice (k := 24) (allFail_cons (cppContainer_fails lk_MapType (by decide) _ hcpp (hk kwMap (by decide)))
      (allFail_cons (cppContainer_fails lk_SetType (by decide) _ hcpp (hk kwSet (by decide)))
      (allFail_cons ((listType_fails _ (hk kwList (by decide))).mono (by decide)) allFail_nil))))))
  have h := ParsesTo.ref lk_FieldType (ParsesTo.act (ParsesTo.lab (n := "typ") (ParsesTo.choice (k := s.length + 32)
    (ChoiceRun.tail (h1.mono (by omega)) (ChoiceRun.tail (h2.mono (by omega)) (ChoiceRun.head ((identifier_parses c s x hc hs hx).mono (by omega))))))))
  rw [consumed_of_eq _ (c :: s) x rfl] at h
  exact h.mono (by fuel_le)

theorem fieldType_named (c : Char) (s rest : List Char) (hc : idStart c = true) (hs : ∀ x ∈ s, idPart x = true)
    (hno : NoTypeKeywordPrefix (c :: s ++ rest)) (h : StopHead rest) (F : Nat) (hF : s.length + 40 ≤ F) :
    ∃ t, parse F grammar "FieldType" (c :: s ++ rest) = .ok t rest ∧ ∀ k, evTy (k + 1) t = some (.named (c :: s)) :=
  ⟨_, fieldType_named_parses c s rest hc hs hno (h.head.mono fun _ h => h.1.1) F hF, fun k => by
    simp [evTy, FV.Act.get, FV.Act.body, tagOf, idTree, evIdent, textOf]⟩

/-- `FieldType` on a text that starts with a container keyword: the value of the container rule `r`
the keyword selects, wrapped by `ContainerType` and `FieldType`.  The wrappers add 16, so the container cases
bring their rule to `cost + 2 * g.length + 94` for the `+ 110` of `TyParses`. -/
theorem fieldType_container {kw x rest : List Char} {r : String} {t : Tree} {w c : Nat}
    (hkw : (kw = kwMap ∧ r = "MapType") ∨ (kw = kwSet ∧ r = "SetType") ∨ (kw = kwList ∧ r = "ListType"))
    (h : ParsesTo grammar (.ref r) (kw ++ x) t rest (w + c)) (hc : 24 ≤ c) :
    ParsesTo grammar (.ref "FieldType") (kw ++ x)
      (.act "FieldType1" (consumed (kw ++ x) rest) (.lab "typ" (.act "ContainerType1" (consumed (kw ++ x) rest) (.lab "typ" t)))) rest
      (w + (c + 16)) := by
  have hk : 24 ≤ w + c := Nat.le_trans hc (Nat.le_add_left c w)
  have hcr : ChoiceRun grammar (w + c) [.ref "MapType", .ref "SetType", .ref "ListType"] (kw ++ x) t rest := by
    rcases hkw with ⟨rfl, rfl⟩ | ⟨rfl, rfl⟩ | ⟨rfl, rfl⟩
    · exact .head h
    · exact .tail ((cppContainer_fails lk_MapType (by decide) _ (matchLit_clash x (by decide)) (matchLit_clash x (by decide))).mono hk) (.head h)
    · exact .tail ((cppContainer_fails lk_MapType (by decide) _ (matchLit_clash x (by decide)) (matchLit_clash x (by decide))).mono hk)
        (.tail ((cppContainer_fails lk_SetType (by decide) _ (matchLit_clash x (by decide)) (matchLit_clash x (by decide))).mono hk) (.head h))
  have hb : FailsOn grammar (.ref "BaseType") (kw ++ x) 21 := baseType_fails _ fun b hb => matchLit_clash x (by
    rcases hkw with ⟨rfl, _⟩ | ⟨rfl, _⟩ | ⟨rfl, _⟩ <;> (revert b; decide))
  exact (ParsesTo.ref lk_FieldType (ParsesTo.act (ParsesTo.lab (n := "typ") (ParsesTo.choice (k := w + c + 8)
    (ChoiceRun.tail (hb.mono (by omega)) (ChoiceRun.head ((ParsesTo.ref lk_ContainerType (ParsesTo.act
      (ParsesTo.lab (n := "typ") (ParsesTo.choice hcr)))).mono (by fuel_le)))))))).mono (by fuel_le)

/-! ### styled types: a type together with the white space written inside its brackets -/

inductive STy where
  | base (n : List Char)
  | named (n : List Char)
  | list (w1 : List Char) (e : STy) (w2 : List Char)
  | set (w1 : List Char) (e : STy) (w2 : List Char)
  | map (w1 : List Char) (k : STy) (w2 w3 : List Char) (v : STy) (w4 : List Char)

namespace STy

/-- The type denoted (no annotations). -/
def erase : STy → Ty
  | base n => .base n []
  | named n => .named n
  | list _ e _ => .list e.erase []
  | set _ e _ => .set e.erase []
  | map _ k _ _ v _ => .map k.erase v.erase []

/-- The text: `list<` w1 e w2 `>`, `set<` w1 e w2 `>`, `map<` w1 k w2 `,` w3 v w4 `>`. -/
def render : STy → List Char
  | base n => n
  | named n => n
  | list w1 e w2 => kwList ++ (w1 ++ (e.render ++ (w2 ++ ['>'])))
  | set w1 e w2 => kwSet ++ (w1 ++ (e.render ++ (w2 ++ ['>'])))
  | map w1 k w2 w3 v w4 => kwMap ++ (w1 ++ (k.render ++ (w2 ++ (',' :: (w3 ++ (v.render ++ (w4 ++ ['>'])))))))

/-- Well-formed: base names are the grammar's, named types are identifiers without a type keyword
as a prefix, the `w`s are white space. -/
def Ok : STy → Prop
  | base n => n ∈ baseNames
  | named n => IdShape n ∧ NoKw n
  | list w1 e w2 => IsWs w1 ∧ e.Ok ∧ IsWs w2
  | set w1 e w2 => IsWs w1 ∧ e.Ok ∧ IsWs w2
  | map w1 k w2 w3 v w4 => IsWs w1 ∧ k.Ok ∧ IsWs w2 ∧ IsWs w3 ∧ v.Ok ∧ IsWs w4

def depth : STy → Nat
  | base _ => 0
  | named _ => 0
  | list _ e _ => e.depth + 1
  | set _ e _ => e.depth + 1
  | map _ k _ _ v _ => k.depth + v.depth + 1

/-- Fuel needed beyond the constant: grows with nesting and with the length of names and gaps.  The
weights 30 and 40 are what a container rule adds over the common constant of its elements (its own
sequence and the `ContainerType` / `FieldType` wrappers: the list and map cases of `tyParses_of_ok`); like the constants
they are rounded up. -/
def cost : STy → Nat
  | base _ => 0
  | named n => n.length
  | list w1 e w2 => e.cost + 2 * w1.length + 2 * w2.length + 30
  | set w1 e w2 => e.cost + 2 * w1.length + 2 * w2.length + 30
  | map w1 k w2 w3 v w4 => k.cost + v.cost + 2 * w1.length + 2 * w2.length + 2 * w3.length + 2 * w4.length + 40

theorem render_head : ∀ (s : STy), s.Ok → ∃ c r, s.render = c :: r ∧ idPart c = true := by
  intro s
  cases s with
  | base n =>
    intro h
    simp only [Ok, baseNames, List.mem_cons, List.mem_nil_iff, or_false] at h
    rcases h with rfl | rfl | rfl | rfl | rfl | rfl | rfl | rfl <;> exact ⟨_, _, rfl, by decide⟩
  | named n =>
    intro h
    obtain ⟨⟨c, t, rfl, hc, _⟩, _⟩ := h
    exact ⟨c, t, rfl, idStart_idPart hc⟩
  | list w1 e w2 => intro _; exact ⟨'l', _, rfl, by decide⟩
  | set w1 e w2 => intro _; exact ⟨'s', _, rfl, by decide⟩
  | map w1 k w2 w3 v w4 => intro _; exact ⟨'m', _, rfl, by decide⟩

end STy

/-- The statement proved by induction: `FieldType` on the rendered type followed by a gap `g` of `_`
and a separator: the type's value is `erase`, and the gap is either still there (named type) or consumed. -/
def TyParses (s : STy) : Prop :=
  ∀ (g rest : List Char), IsGap uBody g → SepOk (g ++ rest) → NoParen rest → TokHead rest →
    ∃ t mid, ParsesTo grammar (.ref "FieldType") (s.render ++ (g ++ rest)) t mid (s.cost + 2 * g.length + 110) ∧
      (mid = g ++ rest ∨ mid = rest) ∧ textOf t = consumed (s.render ++ (g ++ rest)) mid ∧
      ∀ k, s.depth < k → evTy k t = some s.erase

theorem IsWs.sepOk_append {w tail} (hw : IsWs w) (ht : SepOk tail) : SepOk (w ++ tail) :=
  HeadP.append_of (Q := fun c => wsC c = true) (fun c r e => hw c (by simp [e]))
    (fun c h => ⟨Bool.eq_false_iff.2 (fun hp => by rw [idPart_not_ws hp] at h; cases h),
      ne_of_class h (by decide), ne_of_class h (by decide)⟩) fun _ => ht

/-- An element inside brackets: `WS` element `WS`, up to the closer, in front of the rest `es` of the rule. -/
theorem bracket_elem (lab : String) (e : STy) (hok : e.Ok) (ih : TyParses e) (w1 w2 tail : List Char) (hw1 : IsWs w1) (hw2 : IsWs w2)
    (hc : StopHead tail) {es : List Expr} {ts : List Tree} {rest : List Char} {w : Nat} (htl : SeqRun grammar (w + 111) es tail ts rest) :
    ∃ t1 te t2, SeqRun grammar (2 * w1.length + (e.cost + 2 * w2.length + w) + 111) (.ref "WS" :: .lab lab (.ref "FieldType") :: .ref "WS" :: es)
        (w1 ++ (e.render ++ (w2 ++ tail))) (.seq t1 :: .lab lab te :: .seq t2 :: ts) rest ∧
      ∀ k, e.depth < k → evTy k te = some e.erase := by
  obtain ⟨c, r, hr, hcp⟩ := e.render_head hok
  have hstop : StopsAt wsC (e.render ++ (w2 ++ tail)) := by rw [hr]; exact HeadP.cons (idPart_not_ws hcp)
  have hsep : SepOk tail := hc.head.mono fun _ h => h.1
  have hws : StopsAt wsC tail := hc.head.mono fun _ h => h.2.2
  obtain ⟨t1, h1⟩ := ws_consumes w1 _ hw1 hstop
  obtain ⟨te, mid, h2, hmid, _, hev⟩ := ih w2 tail hw2.gap_u (hw2.sepOk_append hsep) hsep.noParen (hc.head.mono fun _ h => h.2.1)
  obtain ⟨t2, h3⟩ : ∃ t2, ParsesTo grammar (.ref "WS") mid (.seq t2) tail (2 * w2.length + 70) := by
    rcases hmid with rfl | rfl
    · exact ws_consumes w2 tail hw2 hws
    · obtain ⟨t2, h3⟩ := ws_consumes [] mid (fun _ h => by simp at h) hws
      exact ⟨t2, h3.mono (by simp)⟩
  exact ⟨t1, te, t2, SeqRun.cons_le h1 (by omega) (SeqRun.cons_le (ParsesTo.lab h2) (by omega) (SeqRun.cons_le h3 (by omega) (htl.mono (by omega)))), hev⟩

/-- The tail `'>' _ annotations?` of the container rules (the `+ 0` in the bound is `SeqRun.nilC`'s). -/
theorem containerTail (g rest : List Char) (hg : IsGap uBody g) (hr : NoParen rest) (ht : TokHead rest) :
    ∃ ts, SeqRun grammar (2 * g.length + 0 + 111) [.lit ['>'] false, .ref "_", .lab "annotations" (.opt (.ref "TypeAnnotations"))]
      ('>' :: (g ++ rest)) [.text ['>'], .seq ts, .lab "annotations" .nil] rest := by
  obtain ⟨ts, hu⟩ := u_consumes g rest hg ht.uhead
  exact ⟨ts, SeqRun.consC (ParsesTo.lit_append ['>'] _) (by decide) (SeqRun.consA hu (by decide)
    (SeqRun.consC (ParsesTo.lab (noAnns rest hr)) (by decide) (SeqRun.nilC 111)))⟩

theorem tyParses_of_ok : ∀ (s : STy), s.Ok → TyParses s := by
  intro s
  induction s with
  | base n =>
    intro hok g rest hg _ hr ht
    obtain ⟨ts, hu⟩ := u_consumes g rest hg ht.uhead
    exact ⟨_, rest, (fieldType_base_of hok hu (by omega) hr).mono (by simp [STy.cost]), Or.inr rfl,
      (consumed_of_eq (n ++ (g ++ rest)) (n ++ g) rest (by simp)).symm, fun | k + 1, _ => evTy_base _ _ n ts k⟩
  | named n =>
    intro hok
    obtain ⟨⟨c, s, rfl, hc, hs⟩, hno⟩ := hok
    intro g rest _ hsg _ _
    exact ⟨_, g ++ rest, (fieldType_named_parses c s (g ++ rest) hc hs
      (fun kw hkw => matchLit_no_straddle kw _ _ (by revert kw; decide) hsg (hno kw hkw)) (HeadP.mono hsg fun _ h => h.1)).mono (by simp [STy.cost]; omega), Or.inl rfl,
      (consumed_of_eq _ _ _ rfl).symm, fun | k + 1, _ => by simp [evTy, FV.Act.get, FV.Act.body, tagOf, idTree, evIdent, textOf, STy.erase]⟩
  | list w1 e w2 ih =>
    intro ⟨hw1, hoke, hw2⟩ g rest hg _ hr ht
    obtain ⟨ts, htl⟩ := containerTail g rest hg hr ht
    obtain ⟨t1, te, t2, hb, hev⟩ := bracket_elem "typ" e hoke (ih hoke) w1 w2 _ hw1 hw2 (HeadP.cons (Or.inl rfl)) htl
    have hl := (ParsesTo.ref lk_ListType (ParsesTo.act (ParsesTo.seq
      (SeqRun.consC (ParsesTo.lit_append kwList _) (by decide) hb)))).mono
      (by simp [STy.cost]; omega : _ ≤ (STy.list w1 e w2).cost + 2 * g.length + 94)
    rw [show (STy.list w1 e w2).render ++ (g ++ rest) = kwList ++ (w1 ++ (e.render ++ (w2 ++ '>' :: (g ++ rest)))) by simp [STy.render]]
    refine ⟨_, rest, fieldType_container (Or.inr (Or.inr ⟨rfl, rfl⟩)) hl (by decide), Or.inr rfl, rfl, fun
      | k + 1, hk => ?_⟩
    rw [evTy]
    simp [FV.Act.get, FV.Act.body, tagOf, findLab, evAnns, isNil, STy.erase, hev k (Nat.lt_of_succ_lt_succ hk)]
  | set w1 e w2 ih =>
    intro ⟨hw1, hoke, hw2⟩ g rest hg _ hr ht
    obtain ⟨ts, htl⟩ := containerTail g rest hg hr ht
    obtain ⟨t1, te, t2, hb, hev⟩ := bracket_elem "typ" e hoke (ih hoke) w1 w2 _ hw1 hw2 (HeadP.cons (Or.inl rfl)) htl
    have hl := (ParsesTo.ref lk_SetType (ParsesTo.act (ParsesTo.seq
      (SeqRun.consC (cppOpt_none _ (matchLit_clash _ (by decide))) (by decide)
      (SeqRun.consC (ParsesTo.lit_append kwSet _) (by decide) hb))))).mono
      (by simp [STy.cost]; omega : _ ≤ (STy.set w1 e w2).cost + 2 * g.length + 94)
    rw [show (STy.set w1 e w2).render ++ (g ++ rest) = kwSet ++ (w1 ++ (e.render ++ (w2 ++ '>' :: (g ++ rest)))) by simp [STy.render]]
    refine ⟨_, rest, fieldType_container (Or.inr (Or.inl ⟨rfl, rfl⟩)) hl (by decide), Or.inr rfl, rfl, fun
      | k + 1, hk => ?_⟩
    rw [evTy]
    simp [FV.Act.get, FV.Act.body, tagOf, findLab, evAnns, isNil, STy.erase, hev k (Nat.lt_of_succ_lt_succ hk)]
  | map w1 k w2 w3 v w4 ihk ihv =>
    intro ⟨hw1, hokk, hw2, hw3, hokv, hw4⟩ g rest hg _ hr ht
    obtain ⟨ts, htl⟩ := containerTail g rest hg hr ht
    obtain ⟨a1, tv, a2, hv, hevv⟩ := bracket_elem "value" v hokv (ihv hokv) w3 w4 _ hw3 hw4 (HeadP.cons (Or.inl rfl)) htl
    obtain ⟨b1, tk, b2, hk, hevk⟩ := bracket_elem "key" k hokk (ihk hokk) w1 w2 _ hw1 hw2 (HeadP.cons (Or.inr rfl))
      (SeqRun.consC (ParsesTo.lit_append [','] _) (by decide) hv)
    have hl := (ParsesTo.ref lk_MapType (ParsesTo.act (ParsesTo.seq
      (SeqRun.consC (cppOpt_none _ (matchLit_clash _ (by decide))) (by decide)
      (SeqRun.consC (ParsesTo.lit_append kwMap _) (by decide) hk))))).mono
      (by simp [STy.cost]; omega : _ ≤ (STy.map w1 k w2 w3 v w4).cost + 2 * g.length + 94)
    rw [show (STy.map w1 k w2 w3 v w4).render ++ (g ++ rest) =
      kwMap ++ (w1 ++ (k.render ++ (w2 ++ ',' :: (w3 ++ (v.render ++ (w4 ++ '>' :: (g ++ rest))))))) by simp [STy.render]]
    refine ⟨_, rest, fieldType_container (Or.inl ⟨rfl, rfl⟩) hl (by decide), Or.inr rfl, rfl, fun
      | n + 1, hn => ?_⟩
    have hn' : k.depth + v.depth < n := Nat.lt_of_succ_lt_succ hn
    rw [evTy]
    simp [FV.Act.get, FV.Act.body, tagOf, findLab, evAnns, isNil, STy.erase, hevk n (Nat.lt_of_le_of_lt (Nat.le_add_right _ _) hn'),
      hevv n (Nat.lt_of_le_of_lt (Nat.le_add_left _ _) hn')]

theorem STy.depth_le_render : ∀ (s : STy), s.depth ≤ s.render.length := by
  intro s
  induction s with
  | base n => simp [STy.depth]
  | named n => simp [STy.depth]
  | list w1 e w2 ih => simp [STy.depth, STy.render, kwList]; omega
  | set w1 e w2 ih => simp [STy.depth, STy.render, kwSet]; omega
  | map w1 k w2 w3 v w4 ihk ihv => simp [STy.depth, STy.render, kwMap]; omega

/-- The canonical styling (no white space) of a type; annotations are dropped. -/
def STy.canon : Ty → STy
  | .base n _ => .base n
  | .named n => .named n
  | .list e _ => .list [] (STy.canon e) []
  | .set e _ => .set [] (STy.canon e) []
  | .map k v _ => .map [] (STy.canon k) [] [] (STy.canon v) []

/-- No annotations anywhere in the type. -/
def NoAnns : Ty → Prop
  | .base _ a => a = []
  | .named _ => True
  | .list e a => a = [] ∧ NoAnns e
  | .set e a => a = [] ∧ NoAnns e
  | .map k v a => a = [] ∧ NoAnns k ∧ NoAnns v

theorem STy.erase_canon : ∀ (ty : Ty), NoAnns ty → (STy.canon ty).erase = ty := by
  intro ty
  induction ty with
  | base n a => intro h; simp only [NoAnns] at h; subst h; rfl
  | named n => intro _; rfl
  | list e a ih => intro h; obtain ⟨rfl, h2⟩ := h; simp [STy.canon, STy.erase, ih h2]
  | set e a ih => intro h; obtain ⟨rfl, h2⟩ := h; simp [STy.canon, STy.erase, ih h2]
  | map k v a ihk ihv => intro h; obtain ⟨rfl, h2, h3⟩ := h; simp [STy.canon, STy.erase, ihk h2, ihv h3]

/-- `FieldType` on every well-formed styled type (arbitrary nesting) followed by a gap of `_` and a separator:
the gap is either still there (named type) or consumed, and the actions' evaluation fuel (`tyFuel`, from the
length of the matched text) is enough for the value. -/
theorem fieldType_styled (s : STy) (hok : s.Ok) (g rest : List Char) (hg : IsGap uBody g) (hsep : SepOk (g ++ rest)) (hr : NoParen rest)
    (ht : TokHead rest) :
    ∃ t mid, ParsesTo grammar (.ref "FieldType") (s.render ++ (g ++ rest)) t mid (s.cost + 2 * g.length + 110) ∧
      (mid = g ++ rest ∨ mid = rest) ∧ evTy (tyFuel t) t = some s.erase := by
  obtain ⟨t, mid, h1, hmid, htx, hev⟩ := tyParses_of_ok s hok g rest hg hsep hr ht
  refine ⟨t, mid, h1, hmid, hev _ (Nat.lt_succ_of_le (Nat.le_succ_of_le ?_))⟩
  rw [htx]
  rcases hmid with rfl | rfl
  · rw [consumed_append]; exact s.depth_le_render
  · rw [← List.append_assoc, consumed_append, List.length_append]
    exact Nat.le_trans s.depth_le_render (Nat.le_add_right _ _)

/-- `typ:FieldType _` on a well-formed type, a gap of `_` and a token: both rules together consume type
and gap, whichever of them takes the gap. -/
theorem typeThenGap (s : STy) (hok : s.Ok) (g y : List Char) (hg : IsGap uBody g) (hsep : SepOk (g ++ y)) (hnp : NoParen y)
    (ht : TokHead y) :
    ∃ t mid ts, ParsesTo grammar (.ref "FieldType") (s.render ++ (g ++ y)) t mid (s.cost + 2 * g.length + 110) ∧
      ParsesTo grammar (.ref "_") mid (.seq ts) y (2 * g.length + 70) ∧ evTy (tyFuel t) t = some s.erase := by
  obtain ⟨t, mid, h1, hmid, hev⟩ := fieldType_styled s hok g y hg hsep hnp ht
  refine ⟨t, mid, ?_⟩
  rcases hmid with rfl | rfl
  · obtain ⟨ts, hu⟩ := u_consumes g y hg ht.uhead
    exact ⟨ts, h1, hu, hev⟩
  · obtain ⟨ts, hu⟩ := u_consumes [] mid (IsGap.nil _) ht.uhead
    exact ⟨ts, h1, hu.mono (by simp), hev⟩

end FV.PegIdl
