/-
C11: `parseFrugal`'s include traversal — missing / circular / badly named includes are errors; a
valid program (FV/Spec/Compile.lean `ValidProg`) is accepted by the whole front end.
-/
import FV.Proofs.CompileValid
import FV.Proofs.ListAux
namespace FV.Compile

theorem load_missing (p : Prog) (n : Nat) (vis : List Name) (v : Name) (h : findFile p v = none) :
    load p (n + 1) vis v = .err .missingInclude := by
  rw [load, h]

theorem loadIncludes_missing (p : Prog) (n : Nat) (vis : List Name) (v : Name) (vs : List Name)
    (hs : (hasSuffix v thriftExt || hasSuffix v frugalExt) = true) (h : findFile p v = none) :
    loadIncludes p (n + 1) vis (v :: vs) = .err .missingInclude := by
  rw [loadIncludes, hs, load_missing p n vis v h]
  rfl

theorem load_circular (p : Prog) (n : Nat) (vis : List Name) (v : Name) (f : File) (h : findFile p v = some f)
    (hc : vis.contains f.name = true) : load p (n + 1) vis v = .err .circularInclude := by
  rw [load, h]
  dsimp only
  rw [if_pos hc]

theorem loadIncludes_badName (p : Prog) (n : Nat) (vis : List Name) (v : Name) (vs : List Name)
    (hs : (hasSuffix v thriftExt || hasSuffix v frugalExt) = false) :
    loadIncludes p n vis (v :: vs) = .err .badIncludeName := by
  rw [loadIncludes, hs]
  rfl

theorem findFile_eq {p : Prog} (hd : (p.map (·.name)).Nodup) {g : File} (hg : g ∈ p) :
    findFile p (g.name ++ frugalExt) = some g := by
  unfold findFile
  cases h : p.find? (fun f => f.name ++ frugalExt = g.name ++ frugalExt ∨ f.name ++ thriftExt = g.name ++ frugalExt) with
  | none =>
    have := List.find?_eq_none.mp h g hg
    simp at this
  | some f =>
    have hp := List.find?_some h
    simp only [decide_eq_true_eq] at hp
    have hn : f.name = g.name := by
      rcases hp with hp | hp
      · exact List.append_cancel_right hp
      -- `.thrift` and `.frugal` have the same length (7) and differ
      · exact absurd (List.append_inj' hp (by decide)).2 (by decide)
    rw [inj_of_nodup_map hd (List.mem_of_find?_eq_some h) hg hn]

theorem hasSuffix_frugal (n : Name) : (hasSuffix (n ++ frugalExt) thriftExt || hasSuffix (n ++ frugalExt) frugalExt) = true := by
  have : hasSuffix (n ++ frugalExt) frugalExt = true := by
    unfold hasSuffix
    rw [List.reverse_append, List.isPrefixOf_iff_prefix]
    exact List.prefix_append _ _
  rw [this, Bool.or_true]

theorem includeKey_frugal (n : Name) : ∃ k, includeKey (n ++ frugalExt) = .ok k := by
  unfold includeKey goSliceTo
  have hl : (n ++ frugalExt).length = n.length + 7 := by rw [List.length_append]; rfl   -- 7 = |".frugal"|
  rw [hl, if_pos (by omega)]
  exact ⟨_, rfl⟩

theorem includesLater_suffix : ∀ (a b : Prog), IncludesLater (a ++ b) → IncludesLater b
  | [], _, h => h
  | _ :: xs, b, h => includesLater_suffix xs b h.2

/-- Loading a file of a valid program succeeds with more fuel than there are files listed after it. -/
theorem load_ok (p : Prog) (hd : (p.map (·.name)).Nodup) (hv : ∀ f ∈ p, Valid (ctxOf p f)) :
    ∀ (fuel : Nat) (pre : Prog) (f : File) (rest : Prog), rest.length < fuel → p = pre ++ f :: rest →
      IncludesLater (f :: rest) → ∀ vis : List Name, (∀ n ∈ vis, n ∈ pre.map (·.name)) →
      load p fuel vis (f.name ++ frugalExt) = .ok () := by
  intro fuel
  induction fuel with
  | zero => intro _ _ _ h; cases h
  | succ fuel ih =>
    intro pre f rest hk hp hinc vis hvis
    have hfp : f ∈ p := by rw [hp]; simp
    -- a file on the path of visited files is listed before `f`, so it is not `f`
    have hnv : vis.contains f.name = false := contains_false_of_not_mem fun hm => by
      rw [hp, List.map_append, List.map_cons] at hd
      exact (List.nodup_append.mp hd).2.2 _ (hvis _ hm) _ List.mem_cons_self rfl
    have hincs : ∀ vs : List Name, (∀ v ∈ vs, ∃ g ∈ rest, v = g.name ++ frugalExt) →
        loadIncludes p fuel (vis ++ [f.name]) vs = .ok () := by
      intro vs
      induction vs with
      | nil => intro _; rw [loadIncludes]
      | cons v vs ihv =>
        intro hvs
        obtain ⟨g, hg, rfl⟩ := hvs v List.mem_cons_self
        obtain ⟨r1, r2, hr⟩ := List.append_of_mem hg
        subst hr
        have hload : load p fuel (vis ++ [f.name]) (g.name ++ frugalExt) = .ok () := by
          refine ih (pre ++ f :: r1) g r2 ?_ (by rw [hp]; simp) (includesLater_suffix (f :: r1) _ hinc) _ fun n hn => ?_
          · rw [List.length_append, List.length_cons] at hk; omega
          · rcases List.mem_append.mp hn with hn | hn
            · rw [List.map_append]; exact List.mem_append_left _ (hvis n hn)
            · cases List.mem_singleton.mp hn; simp
        obtain ⟨key, hkey⟩ := includeKey_frugal g.name
        rw [loadIncludes, hasSuffix_frugal, hload]
        simp only [Bool.not_true, Bool.false_eq_true, if_false, hkey]
        exact ihv fun w hw => hvs w (List.mem_cons_of_mem _ hw)
    rw [load, findFile_eq hd hfp]
    simp only [hnv, Bool.false_eq_true, if_false, hincs f.includes hinc.1]
    exact (valid_iff_validateFile _).mp (hv f hfp)

end FV.Compile
