/-
Invariant of the adapter transport model (repaired code) and its preservation by every action (C15).

`IndInv` is what the induction runs on: three parts (mutex holder, what each incarnation has published, monitor
channel) that each look at a few fields, so that an update carries the parts it does not touch along unchanged.
`SysInv` is the flat list of facts read off it: the enabledness lemmas and most properties use that one, the
progress lemmas and the properties that need a part whole use `IndInv`. `inv_step` goes by cases on `Step`.
-/
import FV.Model.Adapter
import FV.Proofs.ListAux
namespace FV.Adapter

@[simp] theorem setCall_calls (s : Sys) (i j : Nat) (pc : CPc) :
    (setCall s i pc).calls[j]? = (s.calls[j]?).map fun c => if i = j then { c with pc := pc } else c := by
  simp [setCall, List.getElem?_modify]

@[simp] theorem setCall_incs (s : Sys) (i : Nat) (pc : CPc) : (setCall s i pc).incs = s.incs := rfl
@[simp] theorem setCall_isOpen (s : Sys) (i : Nat) (pc : CPc) : (setCall s i pc).isOpen = s.isOpen := rfl
@[simp] theorem setCall_mu (s : Sys) (i : Nat) (pc : CPc) : (setCall s i pc).mu = s.mu := rfl
@[simp] theorem setCall_fresh (s : Sys) (i : Nat) (pc : CPc) : (setCall s i pc).fresh = s.fresh := rfl
@[simp] theorem setCall_panicked (s : Sys) (i : Nat) (pc : CPc) : (setCall s i pc).panicked = s.panicked := rfl
@[simp] theorem setCall_mon (s : Sys) (i : Nat) (pc : CPc) : (setCall s i pc).mon = s.mon := rfl
@[simp] theorem setCall_monLog (s : Sys) (i : Nat) (pc : CPc) : (setCall s i pc).monLog = s.monLog := rfl
@[simp] theorem setCall_monSent (s : Sys) (i : Nat) (pc : CPc) : (setCall s i pc).monSent = s.monSent := rfl

@[simp] theorem setLoop_incs (s : Sys) (k j : Nat) (pc : LPc) :
    (setLoop s k pc).incs[j]? = (s.incs[j]?).map fun i => if k = j then { i with loop := pc } else i := by
  simp [setLoop, List.getElem?_modify]
@[simp] theorem setLoop_len (s : Sys) (k : Nat) (pc : LPc) : (setLoop s k pc).incs.length = s.incs.length := by
  simp [setLoop]
@[simp] theorem setLoop_calls (s : Sys) (k : Nat) (pc : LPc) : (setLoop s k pc).calls = s.calls := rfl
@[simp] theorem setLoop_isOpen (s : Sys) (k : Nat) (pc : LPc) : (setLoop s k pc).isOpen = s.isOpen := rfl
@[simp] theorem setLoop_mu (s : Sys) (k : Nat) (pc : LPc) : (setLoop s k pc).mu = s.mu := rfl
@[simp] theorem setLoop_fresh (s : Sys) (k : Nat) (pc : LPc) : (setLoop s k pc).fresh = s.fresh := rfl
@[simp] theorem setLoop_panicked (s : Sys) (k : Nat) (pc : LPc) : (setLoop s k pc).panicked = s.panicked := rfl
@[simp] theorem setLoop_mon (s : Sys) (k : Nat) (pc : LPc) : (setLoop s k pc).mon = s.mon := rfl
@[simp] theorem setLoop_monLog (s : Sys) (k : Nat) (pc : LPc) : (setLoop s k pc).monLog = s.monLog := rfl
@[simp] theorem setLoop_monSent (s : Sys) (k : Nat) (pc : LPc) : (setLoop s k pc).monSent = s.monSent := rfl

@[simp] theorem notifyMon_incs (s : Sys) (c : Cause) : (notifyMon s c).incs = s.incs := by
  unfold notifyMon; cases s.mon <;> simp only []; split <;> rfl
@[simp] theorem notifyMon_calls (s : Sys) (c : Cause) : (notifyMon s c).calls = s.calls := by
  unfold notifyMon; cases s.mon <;> simp only []; split <;> rfl
@[simp] theorem notifyMon_fresh (s : Sys) (c : Cause) : (notifyMon s c).fresh = s.fresh := by
  unfold notifyMon; cases s.mon <;> simp only []; split <;> rfl
@[simp] theorem notifyMon_panicked (s : Sys) (c : Cause) : (notifyMon s c).panicked = s.panicked := by
  unfold notifyMon; cases s.mon <;> simp only []; split <;> rfl
@[simp] theorem notifyMon_monLog (s : Sys) (c : Cause) : (notifyMon s c).monLog = s.monLog := by
  unfold notifyMon; cases s.mon <;> simp only []; split <;> rfl

/-- What `doClose` does to incarnation `j` (repaired code). -/
def closeInc (cur : Nat) (w : Closer) (j : Nat) (i : Inc) : Inc :=
  if j = cur then publish w (wake { i with sig := i.sig + 1 }) else wake i

theorem doClose_incs (s : Sys) (w : Closer) (hf : s.fresh = true) (j : Nat) :
    (doClose s w).incs[j]? = (s.incs[j]?).map (closeInc s.cur w j) := by
  unfold doClose
  simp only [notifyMon_incs, Sys.setSig, hf, if_true, Sys.curSig, Sys.sigOf, Sys.cur,
    List.getElem?_modify, List.getElem?_map]
  cases hj : s.incs[j]? with
  | none => simp
  | some i =>
    by_cases hc : s.incs.length - 1 = j
    · subst hc; simp [closeInc, hj]
    · have hc' : ¬ j = s.incs.length - 1 := fun h => hc h.symm
      simp [closeInc, hc, hc']

@[simp] theorem doClose_len (s : Sys) (w : Closer) : (doClose s w).incs.length = s.incs.length := by
  unfold doClose Sys.setSig
  split <;> simp
@[simp] theorem doClose_calls (s : Sys) (w : Closer) : (doClose s w).calls = s.calls := by
  unfold doClose Sys.setSig
  split <;> simp
@[simp] theorem doClose_isOpen (s : Sys) (w : Closer) : (doClose s w).isOpen = false := rfl
@[simp] theorem doClose_mu (s : Sys) (w : Closer) : (doClose s w).mu = none := rfl
@[simp] theorem doClose_fresh (s : Sys) (w : Closer) : (doClose s w).fresh = s.fresh := by
  unfold doClose Sys.setSig
  split <;> simp
@[simp] theorem doClose_monLog (s : Sys) (w : Closer) : (doClose s w).monLog = s.monLog := by
  unfold doClose Sys.setSig
  split <;> simp
theorem doClose_panicked (s : Sys) (w : Closer) :
    (doClose s w).panicked = (s.panicked || (s.incs[s.cur]?.map Inc.chanClosed).getD false) := by
  unfold doClose Sys.setSig
  split <;> simp

@[simp] theorem setCall_guarded (s : Sys) (i : Nat) (pc : CPc) : (setCall s i pc).guarded = s.guarded := rfl
@[simp] theorem setLoop_guarded (s : Sys) (k : Nat) (pc : LPc) : (setLoop s k pc).guarded = s.guarded := rfl
@[simp] theorem setSig_guarded (s : Sys) (k n : Nat) : (s.setSig k n).guarded = s.guarded := by
  unfold Sys.setSig; split <;> rfl
@[simp] theorem setSig_isOpen (s : Sys) (k n : Nat) : (s.setSig k n).isOpen = s.isOpen := by
  unfold Sys.setSig; split <;> rfl
@[simp] theorem notifyMon_guarded (s : Sys) (c : Cause) : (notifyMon s c).guarded = s.guarded := by
  unfold notifyMon; cases s.mon <;> simp only []; split <;> rfl
@[simp] theorem doClose_guarded (s : Sys) (w : Closer) : (doClose s w).guarded = s.guarded := by
  unfold doClose; simp

/-- The guard of `IsOpen`'s first step: it goes on to ask the underlying transport (holding the read lock) — on an
open transport always before the second repair, after it only once the current read loop has returned. -/
def Sys.asks (s : Sys) : Bool :=
  s.isOpen && (if s.guarded then decide (s.incs[s.incs.length - 1]?.map Inc.loop = some .done) else true)

/-- `step` read as rules: one for every branch that returns a state, with the guards of that branch. -/
inductive Step (s : Sys) : Action → Sys → Prop
  | invoke {kd} : Step s (.invoke kd) { s with calls := s.calls ++ [⟨kd, .start⟩] }
  | openAlready {i b} : s.calls[i]? = some ⟨.open, .start⟩ → s.mu = none → s.isOpen = true →
      Step s (.callStep i b) (setCall s i (.done .alreadyOpen))
  | openFails {i b} : s.calls[i]? = some ⟨.open, .start⟩ → s.mu = none → s.isOpen = false → b = false →
      Step s (.callStep i b) (setCall s i (.done .other))
  | «open» {i b} : s.calls[i]? = some ⟨.open, .start⟩ → s.mu = none → s.isOpen = false → b = true →
      Step s (.callStep i b) (setCall { s with isOpen := true, incs := s.incs ++ [newInc] } i (.done .ok))
  | isOpenAsks {i b} : s.calls[i]? = some ⟨.isOpen, .start⟩ → s.mu = none →
      s.asks = true →
      Step s (.callStep i b) (setCall { s with mu := some (.call i) } i .atSignal)
  | isOpen {i b} : s.calls[i]? = some ⟨.isOpen, .start⟩ → s.mu = none →
      s.asks = false →
      Step s (.callStep i b) (setCall s i (.done (.bool s.isOpen)))
  | isOpenAsked {i b} : s.calls[i]? = some ⟨.isOpen, .atSignal⟩ → s.incs[s.incs.length - 1]?.map Inc.loop ≠ some .reading →
      Step s (.callStep i b) (setCall { s with mu := none } i (.done (.bool s.isOpen)))
  | closeNotOpen {i b} : s.calls[i]? = some ⟨.close, .start⟩ → s.mu = none → s.isOpen = false →
      Step s (.callStep i b) (setCall s i (.done .notOpen))
  | closeLock {i b} : s.calls[i]? = some ⟨.close, .start⟩ → s.mu = none → s.isOpen = true →
      Step s (.callStep i b) (setCall { s with mu := some (.call i) } i .atSignal)
  | closeCall {i b} : s.calls[i]? = some ⟨.close, .atSignal⟩ → s.curSig < closeSignalCap →
      Step s (.callStep i b) (setCall (doClose s .user) i (.done .ok))
  | readFrame {k} : s.loopPc k = some .reading →
      Step s (.read k .frame) { s with incs := s.incs.modify k fun i => { i with delivered := i.delivered + 1 } }
  | readGarbage {k} : s.loopPc k = some .reading → Step s (.read k .garbage) (setLoop s k (.closing .failure))
  | readFails {k ev} : s.loopPc k = some .reading → ev ≠ .frame → ev ≠ .garbage → Step s (.read k ev) (setLoop s k (.onerror ev))
  | loopToken {k ev} : s.loopPc k = some (.onerror ev) → s.sigOf k > 0 →
      Step s (.loopStep k) (setLoop (s.setSig k (s.sigOf k - 1)) k .done)
  | loopFails {k ev} : s.loopPc k = some (.onerror ev) → ¬ s.sigOf k > 0 →
      Step s (.loopStep k) (setLoop s k (.closing (if ev = .eof then .peerEof else .failure)))
  | loopNotOpen {k w} : s.loopPc k = some (.closing w) → s.mu = none → s.isOpen = false → Step s (.loopStep k) (setLoop s k .done)
  | loopLock {k w} : s.loopPc k = some (.closing w) → s.mu = none → s.isOpen = true →
      Step s (.loopStep k) (setLoop { s with mu := some (.loop k) } k (.atSignal w))
  | closeLoop {k w} : s.loopPc k = some (.atSignal w) → s.curSig < closeSignalCap →
      Step s (.loopStep k) (setLoop (doClose s w) k .done)
  | setMonitor : s.mon = none → Step s .setMonitor { s with mon := some [] }
  | monRecv {c rest} : s.mon = some (c :: rest) → Step s .monRecv { s with mon := some rest, monLog := s.monLog ++ [c] }

theorem step_sound {s s' : Sys} {a : Action} (hs : step s a = some s') : Step s a s' := by
  revert hs; fun_cases step s a <;> intro hs <;> cases hs
  -- the guards as `step` tests them (`¬ s.mu.isSome`, `!s.isOpen`, `!openOk`) in the form the rules state them
  all_goals try simp only [Bool.not_eq_true, Bool.not_eq_true', Bool.not_eq_false, Option.isSome_eq_false_iff,
    Option.isNone_iff_eq_none] at *
  -- `closeLock` by name: `isOpenAsks` ends in the same state and comes first
  all_goals first | exact .closeLock ‹_› ‹_› ‹_› | (constructor <;> assumption)

/-- Goroutine `p` is at the point where the model has it hold the mutex. -/
def Sys.atSig (s : Sys) : Pid → Prop
  | .call i => ∃ c, s.calls[i]? = some c ∧ c.pc = .atSignal
  | .loop k => ∃ w, s.loopPc k = some (.atSignal w)

/-- The mutex discipline: the holder is exactly the goroutine at its signal point; the mutex is held only
on an open transport, and the only calls that wait there are `Close` calls. -/
structure MutexOK (mu : Option Pid) (isOpen : Bool) (calls : List Call) (atSig : Pid → Prop) : Prop where
  holder : ∀ p, mu = some p ↔ atSig p
  held : mu.isSome → isOpen = true
  closers : ∀ (i : Nat) (c : Call), calls[i]? = some c → c.pc = .atSignal → c.kind = .close

/-- One incarnation: untouched, its read loop still running, while it is the open one (`op`);
closed exactly once as soon as it is not. -/
structure IncOK (op : Prop) (i : Inc) : Prop where
  untouched : op → i.sig = 0 ∧ i.chan = [] ∧ i.chanClosed = false ∧ i.closedBy = none ∧ i.loop ≠ .done
  closed : ¬ op → ∃ w, i.closedBy = some w ∧ i.chan = [w.cause] ∧ i.chanClosed = true

/-- Every incarnation is OK, the last one being the open one if the transport is open. -/
structure IncsOK (isOpen : Bool) (incs : List Inc) : Prop where
  nonempty : isOpen = true → incs ≠ []
  each : ∀ (k : Nat) (i : Inc), incs[k]? = some i → IncOK (isOpen = true ∧ k + 1 = incs.length) i

/-- The monitor channel stays within its capacity, and every value sent was received or is still in it. -/
structure MonOK (mon : Option (List Cause)) (monLog : List Cause) (monSent : Nat) : Prop where
  buf : ∀ b, mon = some b → b.length ≤ 1
  count : monSent = monLog.length + (mon.getD []).length

/-- The inductive invariant of the repaired code (`fresh`, `guarded`): no panic, and the three parts. -/
structure IndInv (s : Sys) : Prop where
  fresh : s.fresh = true
  guarded : s.guarded = true
  noPanic : s.panicked = false
  mutex : MutexOK s.mu s.isOpen s.calls s.atSig
  incs : IncsOK s.isOpen s.incs
  mon : MonOK s.mon s.monLog s.monSent

theorem loopPc_setLoop (s : Sys) (k j : Nat) (pc : LPc) :
    (setLoop s k pc).loopPc j = if k = j then (s.loopPc j).map (fun _ => pc) else s.loopPc j := by
  simp only [Sys.loopPc, setLoop_incs, Option.map_map]
  by_cases hkj : k = j <;> cases hi : s.incs[j]? <;> simp [hkj]

theorem atSig_setCall {s : Sys} {i : Nat} {c : Call} (hc : s.calls[i]? = some c) (pc : CPc) (p : Pid) :
    (setCall s i pc).atSig p ↔ if p = .call i then pc = .atSignal else s.atSig p := by
  cases p with
  | loop k => simp only [reduceCtorEq, if_false]; exact Iff.rfl
  | call j =>
    simp only [Sys.atSig, setCall_calls, Pid.call.injEq]
    by_cases e : i = j
    · subst e; simp [hc]
    · have e' : ¬ j = i := fun h => e h.symm
      cases s.calls[j]? <;> simp [e, e']

theorem atSig_setLoop {s : Sys} {k : Nat} {pc0 : LPc} (hk : s.loopPc k = some pc0) (pc : LPc) (p : Pid) :
    (setLoop s k pc).atSig p ↔ if p = .loop k then ∃ w, pc = .atSignal w else s.atSig p := by
  cases p with
  | call i => simp only [reduceCtorEq, if_false]; exact Iff.rfl
  | loop j =>
    simp only [Sys.atSig, loopPc_setLoop, Pid.loop.injEq]
    by_cases e : k = j
    · subst e; simp [hk]
    · have e' : ¬ j = k := fun h => e h.symm
      simp [e, e']

theorem atSig_congr {s s' : Sys} (hc : s'.calls = s.calls)
    (hl : ∀ k w, s'.loopPc k = some (.atSignal w) ↔ s.loopPc k = some (.atSignal w)) (p : Pid) :
    s'.atSig p ↔ s.atSig p := by
  cases p with
  | call i => simp only [Sys.atSig, hc]
  | loop k => simp only [Sys.atSig, hl]

/-- Who holds the mutex after goroutine `q` has moved: `q` if it is now at its signal point (the mutex was
free), nobody if it was `q`, else whoever it was. -/
theorem holder_move {mu mu' : Option Pid} {at_ at' : Pid → Prop} (h : ∀ p, mu = some p ↔ at_ p) (q : Pid)
    {b : Prop} [Decidable b] (hat : ∀ p, at' p ↔ if p = q then b else at_ p) (hb : b → mu = none)
    (hm : mu' = if b then some q else if mu = some q then none else mu) : ∀ p, mu' = some p ↔ at' p := by
  intro p
  rw [hat, hm, ← h p]
  clear h hat hm
  by_cases e : p = q
  · subst e
    by_cases hb' : b
    · simp [hb']
    · simp only [hb', if_true, if_false, iff_false]; split <;> simp [*]
  · by_cases hb' : b
    · simp [e, hb', hb hb', Ne.symm e]
    · simp only [e, hb', if_false]; split <;> simp_all [eq_comm]

instance LPc.decAtSignal (pc : LPc) : Decidable (∃ w, pc = .atSignal w) :=
  match pc with
  | .atSignal w => isTrue ⟨w, rfl⟩
  | .reading | .onerror _ | .closing _ | .done => isFalse (by rintro ⟨_, h⟩; cases h)

/-- Call `i` moves to `pc`; the read loops keep their places at `atSignal`. -/
theorem mutex_call {s s' : Sys} (h : IndInv s) {i : Nat} {c : Call} (hc : s.calls[i]? = some c) (pc : CPc)
    (hcalls : s'.calls = (setCall s i pc).calls)
    (hloops : ∀ k w, s'.loopPc k = some (.atSignal w) ↔ s.loopPc k = some (.atSignal w))
    (hpc : pc = .atSignal → c.kind = .close ∧ s.mu = none) (hheld : s'.mu.isSome → s'.isOpen = true)
    (hm : s'.mu = if pc = .atSignal then some (.call i) else if s.mu = some (.call i) then none else s.mu) :
    MutexOK s'.mu s'.isOpen s'.calls s'.atSig := by
  refine ⟨holder_move h.mutex.holder (.call i) (fun p => ?_) (fun e => (hpc e).2) hm, hheld, ?_⟩
  · rw [atSig_congr (s := setCall s i pc) hcalls hloops, atSig_setCall hc]
  · intro j c' hj hat
    rw [hcalls, setCall_calls, Option.map_eq_some_iff] at hj
    obtain ⟨c0, hc0, rfl⟩ := hj
    by_cases e : i = j
    · subst e; rw [hc] at hc0; cases hc0; simp only [if_true] at hat ⊢; exact (hpc hat).1
    · simp only [e, if_false] at hat ⊢; exact h.mutex.closers j c0 hc0 hat

theorem mutex_loop {s s' : Sys} (h : IndInv s) {k : Nat} {pc0 : LPc} (hk : s.loopPc k = some pc0) (pc : LPc)
    (hcalls : s'.calls = s.calls)
    (hloops : ∀ j w, s'.loopPc j = some (.atSignal w) ↔ (setLoop s k pc).loopPc j = some (.atSignal w))
    (hpc : (∃ w, pc = .atSignal w) → s.mu = none) (hheld : s'.mu.isSome → s'.isOpen = true)
    (hm : s'.mu = if ∃ w, pc = .atSignal w then some (.loop k) else if s.mu = some (.loop k) then none else s.mu) :
    MutexOK s'.mu s'.isOpen s'.calls s'.atSig := by
  refine ⟨holder_move h.mutex.holder (.loop k) (fun p => ?_) hpc hm, hheld, hcalls ▸ h.mutex.closers⟩
  rw [atSig_congr (s := setLoop s k pc) hcalls hloops, atSig_setLoop hk]

theorem incsOK_modify {o : Bool} {incs : List Inc} (h : IncsOK o incs) (k : Nat) (g : Inc → Inc)
    (hg : ∀ i, incs[k]? = some i → IncOK (o = true ∧ k + 1 = incs.length) i →
      IncOK (o = true ∧ k + 1 = incs.length) (g i)) : IncsOK o (incs.modify k g) := by
  refine ⟨fun ho => by simpa using h.nonempty ho, fun j i hj => ?_⟩
  rw [List.length_modify]
  rw [List.getElem?_modify, Option.map_eq_map, Option.map_eq_some_iff] at hj
  obtain ⟨i0, hi0, rfl⟩ := hj
  split
  · rename_i e; subst e; exact hg i0 hi0 (h.each k i0 hi0)
  · exact h.each j i0 hi0

theorem IncOK.setLoop {op : Prop} {i : Inc} (h : IncOK op i) (pc : LPc) (hpc : op → pc ≠ .done) :
    IncOK op { i with loop := pc } :=
  ⟨fun ho => let ⟨a, b, c, d, _⟩ := h.untouched ho; ⟨a, b, c, d, hpc ho⟩, h.closed⟩

/-- `Open` succeeds: the incarnations so far are closed and stay so; the new one is untouched. -/
theorem incsOK_open {incs : List Inc} (h : IncsOK false incs) : IncsOK true (incs ++ [newInc]) := by
  refine ⟨fun _ => by simp, fun k i hk => ?_⟩
  rw [List.length_append, List.length_singleton]
  rcases getElem?_concat_some.mp hk with hk | ⟨rfl, rfl⟩
  · have hlt := (List.getElem?_eq_some_iff.mp hk).1
    exact ⟨fun ho => by omega, fun _ => (h.each k i hk).closed (fun ho => nomatch ho.1)⟩
  · exact ⟨fun _ => ⟨rfl, rfl, rfl, rfl, by simp [newInc]⟩, fun hn => absurd ⟨rfl, rfl⟩ hn⟩

theorem wake_loop (i : Inc) : (wake i).loop = if i.loop = .reading then .onerror .err else i.loop := by
  unfold wake; split <;> simp [*]

/-- `transport.Close()` wakes the readers; every other read loop stays where it is. -/
theorem doClose_loopPc (s : Sys) (hf : s.fresh = true) (w : Closer) (j : Nat) :
    (doClose s w).loopPc j = (s.loopPc j).map fun pc => if pc = .reading then .onerror .err else pc := by
  simp only [Sys.loopPc, doClose_incs s w hf, Option.map_map]
  cases s.incs[j]? <;> simp only [Option.map_none, Option.map_some, Function.comp, closeInc]
  split <;> simp [publish, wake_loop]

theorem doClose_loopPc_iff (s : Sys) (hf : s.fresh = true) (w : Closer) (j : Nat) {pc : LPc}
    (h1 : pc ≠ .reading) (h2 : pc ≠ .onerror .err) : (doClose s w).loopPc j = some pc ↔ s.loopPc j = some pc := by
  rw [doClose_loopPc s hf]
  cases s.loopPc j with
  | none => simp
  | some pc0 =>
    simp only [Option.map_some, Option.some.injEq]
    split
    · rename_i e; rw [e]; exact ⟨fun h => absurd h.symm h2, fun h => absurd h.symm h1⟩
    · rfl

theorem doClose_loopPc_done (s : Sys) (hf : s.fresh = true) (w : Closer) (j : Nat) :
    (doClose s w).loopPc j = some .done ↔ s.loopPc j = some .done :=
  doClose_loopPc_iff s hf w j (nomatch ·) (nomatch ·)

/-- `doClose` publishes the closer's cause on an untouched incarnation, once. -/
theorem closeInc_cur {i : Inc} (h2 : i.chan = []) (h4 : i.closedBy = none) (cur : Nat) (w : Closer) :
    (closeInc cur w cur i).closedBy = some w ∧ (closeInc cur w cur i).chan = [w.cause] ∧
      (closeInc cur w cur i).chanClosed = true := by
  simp only [closeInc, if_true, publish, wake]
  split <;> simp [h2, h4, closeChanCap]

/-- `close()` on the open transport closes the open incarnation, once; the others were closed already. -/
theorem incsOK_doClose {s : Sys} (h : IncsOK true s.incs) (hf : s.fresh = true) (w : Closer) :
    IncsOK false (doClose s w).incs := by
  refine ⟨(nomatch ·), fun j i hj => ⟨(nomatch ·.1), fun _ => ?_⟩⟩
  rw [doClose_incs s w hf, Option.map_eq_some_iff] at hj
  obtain ⟨i0, hi0, rfl⟩ := hj
  have hlt := (List.getElem?_eq_some_iff.mp hi0).1
  by_cases e : j = s.cur
  · obtain ⟨_, h2, _, h4, _⟩ := (h.each j i0 hi0).untouched ⟨rfl, by unfold Sys.cur at e; omega⟩
    exact ⟨w, e ▸ closeInc_cur h2 h4 j w⟩
  · obtain ⟨w', a, b, c⟩ := (h.each j i0 hi0).closed (fun ho => e (by unfold Sys.cur; omega))
    rw [closeInc, if_neg e]
    exact ⟨w', by unfold wake; split <;> exact a, by unfold wake; split <;> exact b, by unfold wake; split <;> exact c⟩

theorem cur_of_open {s : Sys} (h : IncsOK true s.incs) :
    ∃ i, s.incs[s.cur]? = some i ∧ i.sig = 0 ∧ i.chan = [] ∧ i.chanClosed = false ∧ i.closedBy = none ∧ i.loop ≠ .done := by
  have hpos := List.length_pos_iff.mpr (h.nonempty rfl)
  have hlt : s.cur < s.incs.length := by unfold Sys.cur; omega
  refine ⟨s.incs[s.cur], List.getElem?_eq_getElem hlt, (h.each _ _ (List.getElem?_eq_getElem hlt)).untouched ⟨rfl, ?_⟩⟩
  unfold Sys.cur; omega

theorem doClose_noPanic {s : Sys} (h : IncsOK true s.incs) (hp : s.panicked = false) (w : Closer) :
    (doClose s w).panicked = false := by
  obtain ⟨i, hi, _, _, h3, _⟩ := cur_of_open h
  rw [doClose_panicked, hp, hi]; simp [h3]

theorem monOK_notify {s : Sys} (h : MonOK s.mon s.monLog s.monSent) (c : Cause) :
    MonOK (notifyMon s c).mon (notifyMon s c).monLog (notifyMon s c).monSent := by
  obtain ⟨hb, hc⟩ := h
  unfold notifyMon
  cases hm : s.mon with
  | none => exact ⟨by simp [hm], by simpa [hm] using hc⟩
  | some buf =>
    have := hb buf hm
    simp only []
    split
    · rename_i hl
      simp [monitorChanCap] at hl
      exact ⟨by simp [hl], by simp [hl, hm] at hc ⊢; omega⟩
    · exact ⟨by simpa using this, by simpa [hm] using hc⟩

theorem monOK_doClose {s : Sys} (h : MonOK s.mon s.monLog s.monSent) (hf : s.fresh = true) (w : Closer) :
    MonOK (doClose s w).mon (doClose s w).monLog (doClose s w).monSent := by
  unfold doClose
  simp only []
  apply monOK_notify
  simp only [Sys.setSig, hf, if_true]; exact h

theorem inv_init : IndInv (init true) :=
  ⟨rfl, rfl, rfl, ⟨fun p => by cases p <;> simp [init, Sys.atSig, Sys.loopPc], (nomatch ·), fun i c h => by simp [init] at h⟩,
    ⟨(nomatch ·), fun k i h => by simp [init] at h⟩, ⟨fun b h => by simp [init] at h, rfl⟩⟩

/-- A call returns; the mutex is free before and after. -/
theorem inv_callDone {s : Sys} (h : IndInv s) {i : Nat} {c : Call} (hc : s.calls[i]? = some c) (hmu : s.mu = none)
    (r : Ret) : IndInv (setCall s i (.done r)) :=
  { h with mutex := mutex_call h hc (.done r) rfl (fun _ _ => .rfl) (nomatch ·) h.mutex.held (by simp [hmu]) }

/-- The open incarnation's read loop has not returned, so the guarded `IsOpen` never asks the underlying
transport. -/
theorem IndInv.never_asks {s : Sys} (h : IndInv s) :
    s.asks = false := by
  rw [Sys.asks, h.guarded]
  cases ho : s.isOpen with
  | false => rfl
  | true =>
    obtain ⟨i, hi, _, _, _, _, hl⟩ := cur_of_open (ho ▸ h.incs)
    simp only [if_true, Bool.true_and, decide_eq_false_iff_not]
    change ¬ s.incs[s.cur]?.map Inc.loop = some .done
    rw [hi]; simpa using hl

theorem atSig_concat_call (s : Sys) (kd : Kind) (p : Pid) :
    Sys.atSig { s with calls := s.calls ++ [⟨kd, .start⟩] } p ↔ s.atSig p := by
  cases p with
  | loop k => exact .rfl
  | call i =>
    refine exists_congr fun c => ⟨fun ⟨a, b⟩ => ⟨?_, b⟩, fun ⟨a, b⟩ => ⟨getElem?_concat_some.mpr (.inl a), b⟩⟩
    rcases getElem?_concat_some.mp a with a | ⟨_, rfl⟩
    · exact a
    · cases b

theorem atSig_concat_inc (s : Sys) (o : Bool) (p : Pid) :
    Sys.atSig { s with isOpen := o, incs := s.incs ++ [newInc] } p ↔ s.atSig p := by
  cases p with
  | call i => exact .rfl
  | loop k =>
    refine exists_congr fun w => ?_
    simp only [Sys.loopPc, Option.map_eq_some_iff]
    refine exists_congr fun i => ⟨fun ⟨a, b⟩ => ⟨?_, b⟩, fun ⟨a, b⟩ => ⟨getElem?_concat_some.mpr (.inl a), b⟩⟩
    rcases getElem?_concat_some.mp a with a | ⟨_, rfl⟩
    · exact a
    · cases b

theorem IncOK.congr {op : Prop} {i i' : Inc} (h : IncOK op i) (hs : op → i'.sig = i.sig) (h2 : i'.chan = i.chan)
    (h3 : i'.chanClosed = i.chanClosed) (h4 : i'.closedBy = i.closedBy) (h5 : i'.loop = i.loop) : IncOK op i' :=
  ⟨fun ho => by rw [hs ho, h2, h3, h4, h5]; exact h.untouched ho, fun hn => by rw [h2, h3, h4]; exact h.closed hn⟩

theorem loopPc_modInc (s : Sys) (k : Nat) {g : Inc → Inc} (hl : ∀ i, (g i).loop = i.loop) (j : Nat) :
    Sys.loopPc { s with incs := s.incs.modify k g } j = s.loopPc j := by
  simp only [Sys.loopPc, List.getElem?_modify, Option.map_eq_map, Option.map_map]
  cases s.incs[j]? <;> simp only [Option.map_none, Option.map_some, Function.comp]
  split <;> simp [hl]

/-- An update of incarnation `k` that leaves its read loop where it is and keeps it OK. -/
theorem inv_modInc {s : Sys} (h : IndInv s) (k : Nat) (g : Inc → Inc) (hl : ∀ i, (g i).loop = i.loop)
    (hg : ∀ i, IncOK (s.openAt k) i → IncOK (s.openAt k) (g i)) : IndInv { s with incs := s.incs.modify k g } := by
  have hat : ∀ p, Sys.atSig { s with incs := s.incs.modify k g } p ↔ s.atSig p :=
    atSig_congr rfl fun j w => by rw [loopPc_modInc s k hl]
  exact { h with
    incs := incsOK_modify h.incs k g fun i _ => hg i
    mutex := ⟨fun p => (h.mutex.holder p).trans (hat p).symm, h.mutex.held, h.mutex.closers⟩ }

/-- Read loop `k` moves from `pc0` to `pc`, neither of them the point where it holds the mutex. -/
theorem inv_loopMove {s : Sys} (h : IndInv s) {k : Nat} {pc0 : LPc} (hk : s.loopPc k = some pc0) (pc : LPc)
    (h0 : ∀ w, pc0 ≠ .atSignal w) (h1 : ∀ w, pc ≠ .atSignal w) (hdone : pc = .done → ¬ s.openAt k) :
    IndInv (setLoop s k pc) :=
  have hno : ¬ ∃ w, pc = .atSignal w := fun ⟨w, e⟩ => h1 w e
  { h with
    incs := incsOK_modify h.incs k _ fun i _ hok => hok.setLoop pc fun ho e => hdone e ho
    mutex := mutex_loop h hk pc rfl (fun _ _ => .rfl) (fun e => absurd e hno) h.mutex.held (by
      have : ¬ s.mu = some (.loop k) := fun hmu => by
        obtain ⟨w, hw⟩ := (h.mutex.holder (.loop k)).mp hmu
        rw [hk] at hw; exact h0 w (Option.some.inj hw)
      simp [hno, this]) }

theorem sigOf_pos_not_open {s : Sys} (h : IndInv s) (k : Nat) (hp : s.sigOf k > 0) : ¬ s.openAt k := by
  intro ho
  obtain ⟨i, hi⟩ : ∃ i, s.incs[k]? = some i := ⟨s.incs[k]'(by have := ho.2; omega), List.getElem?_eq_getElem _⟩
  have := ((h.incs.each k i hi).untouched ho).1
  simp [Sys.sigOf, h.fresh, hi, this] at hp

theorem setSig_eq {s : Sys} (hf : s.fresh = true) (k n : Nat) :
    s.setSig k n = { s with incs := s.incs.modify k fun i => { i with sig := n } } := by
  simp [Sys.setSig, hf]

theorem inv_step {s s' : Sys} {a : Action} (h : IndInv s) (hs : Step s a s') : IndInv s' := by
  cases hs with
  | @invoke kd =>
    refine { h with mutex := ⟨fun p => (h.mutex.holder p).trans (atSig_concat_call s kd p).symm, h.mutex.held, ?_⟩ }
    intro i c hc hpc
    rcases getElem?_concat_some.mp hc with hc | ⟨_, rfl⟩
    · exact h.mutex.closers i c hc hpc
    · cases hpc
  | openAlready hc hmu | openFails hc hmu | isOpen hc hmu | closeNotOpen hc hmu => exact inv_callDone h hc hmu _
  | «open» hc hmu ho =>
    have h1 : IndInv { s with isOpen := true, incs := s.incs ++ [newInc] } :=
      { h with
        incs := incsOK_open (ho ▸ h.incs)
        mutex := ⟨fun p => (h.mutex.holder p).trans (atSig_concat_inc s true p).symm, fun _ => rfl, h.mutex.closers⟩ }
    exact inv_callDone h1 hc hmu _
  | isOpenAsks _ _ hask => rw [h.never_asks] at hask; cases hask
  | isOpenAsked hc => cases h.mutex.closers _ _ hc rfl
  | closeLock hc hmu ho =>
    exact { h with
      mutex := mutex_call h hc .atSignal rfl (fun _ _ => .rfl) (fun _ => ⟨rfl, hmu⟩) (fun _ => ho) (by simp) }
  | @closeCall i _ hc =>
    have hmu := (h.mutex.holder (.call i)).mpr ⟨_, hc, rfl⟩
    have ho := h.mutex.held (by simp [hmu])
    exact ⟨by simp [h.fresh], by simp [h.guarded], doClose_noPanic (ho ▸ h.incs) h.noPanic _,
      mutex_call h hc (.done .ok) (by simp [setCall]) (fun j _ => doClose_loopPc_iff s h.fresh _ j nofun nofun) (nomatch ·)
        (by simp)
        (by simp [hmu]),
      incsOK_doClose (ho ▸ h.incs) h.fresh _, monOK_doClose h.mon h.fresh _⟩
  | @readFrame k hk => exact inv_modInc h k _ (fun _ => rfl) fun i hi => hi.congr (fun _ => rfl) rfl rfl rfl rfl
  | readGarbage hk | readFails hk | loopFails hk => exact inv_loopMove h hk _ nofun nofun nofun
  | @loopToken k ev hk hp =>
    have hno := sigOf_pos_not_open h k hp
    have h1 : IndInv (s.setSig k (s.sigOf k - 1)) := by
      rw [setSig_eq h.fresh]
      exact inv_modInc h k _ (fun _ => rfl) fun i hi => hi.congr (fun ho => absurd ho hno) rfl rfl rfl rfl
    rw [setSig_eq h.fresh] at h1 ⊢
    exact inv_loopMove h1 (pc0 := .onerror ev) (by rw [loopPc_modInc s k (g := fun i => { i with sig := s.sigOf k - 1 }) fun _ => rfl]; exact hk) .done
      nofun nofun (fun _ => by simpa [Sys.openAt] using hno)
  | loopNotOpen hk _ ho => exact inv_loopMove h hk .done nofun nofun fun _ hop => by cases ho ▸ hop.1
  | @loopLock k w hk hmu ho =>
    exact { h with
      incs := incsOK_modify h.incs k _ fun i _ hok => hok.setLoop _ fun _ => nofun
      mutex := mutex_loop h hk (.atSignal w) rfl (fun _ _ => .rfl) (fun _ => hmu) (fun _ => ho) (by simp) }
  | @closeLoop k w hk =>
    have hmu := (h.mutex.holder (.loop k)).mpr ⟨_, hk⟩
    have ho := h.mutex.held (by simp [hmu])
    refine ⟨by simp [h.fresh], by simp [h.guarded], doClose_noPanic (ho ▸ h.incs) h.noPanic _,
      mutex_loop h hk .done (by simp [setLoop]) ?_ (fun ⟨_, e⟩ => nomatch e) (by simp) (by simp [hmu]),
      incsOK_modify (incsOK_doClose (ho ▸ h.incs) h.fresh _) k _ fun i _ hok => hok.setLoop .done (nomatch ·.1),
      monOK_doClose h.mon h.fresh _⟩
    intro j w'
    rw [loopPc_setLoop, loopPc_setLoop]
    split
    · -- `j = k`: the loop has just been set to `done` on both sides, so neither side is at `atSignal`
      cases (doClose s w).loopPc j <;> cases s.loopPc j <;> simp
    · exact doClose_loopPc_iff s h.fresh w j nofun nofun
  | setMonitor hm => exact { h with mon := ⟨by simp, by simpa [hm] using h.mon.count⟩ }
  | @monRecv c rest hm =>
    have := h.mon.buf _ hm
    have hc := h.mon.count
    exact { h with
      mon := ⟨fun b hb => by cases hb; simp only [List.length_cons] at this; omega, by simp [hm] at hc ⊢; omega⟩ }

theorem inv_run {s s' : Sys} (h : IndInv s) : ∀ (as : List Action), run s as = some s' → IndInv s'
  | [], hr => by cases hr; exact h
  | a :: t, hr => by
    simp only [run] at hr
    cases hst : step s a with
    | none => simp [hst] at hr
    | some s1 => rw [hst] at hr; exact inv_run (inv_step h (step_sound hst)) t hr

theorem reachable_indInv {s : Sys} (h : Reachable s) : IndInv s := by
  obtain ⟨as, hr⟩ := h; exact inv_run inv_init as hr

structure SysInv (s : Sys) : Prop where
  fresh : s.fresh = true
  noPanic : s.panicked = false
  muOpen : s.mu.isSome → s.isOpen = true
  muCall : ∀ i, s.mu = some (.call i) → s.calls[i]? = some ⟨.close, .atSignal⟩
  muLoop : ∀ k, s.mu = some (.loop k) → ∃ w, s.loopPc k = some (.atSignal w)
  callAt : ∀ i c, s.calls[i]? = some c → c.pc = .atSignal → s.mu = some (.call i)
  loopAt : ∀ k w, s.loopPc k = some (.atSignal w) → s.mu = some (.loop k)
  openInc : s.isOpen = true → ∃ i, s.incs[s.cur]? = some i ∧ i.sig = 0 ∧ i.chan = [] ∧ i.chanClosed = false ∧ i.closedBy = none
  closedInc : ∀ k i, s.incs[k]? = some i → ¬ s.openAt k → ∃ w, i.closedBy = some w ∧ i.chan = [w.cause] ∧ i.chanClosed = true
  loopDone : ∀ k, s.loopPc k = some .done → ¬ s.openAt k
  monBuf : ∀ buf, s.mon = some buf → buf.length ≤ 1
  monCount : s.monSent = s.monLog.length + (s.mon.getD []).length

theorem IndInv.sysInv {s : Sys} (h : IndInv s) : SysInv s where
  fresh := h.fresh
  noPanic := h.noPanic
  muOpen := h.mutex.held
  muCall i hi := by
    obtain ⟨⟨kd, pc⟩, hc, rfl⟩ := (h.mutex.holder (.call i)).mp hi
    cases h.mutex.closers i _ hc rfl; exact hc
  muLoop k := (h.mutex.holder (.loop k)).mp
  callAt i c hc hpc := (h.mutex.holder (.call i)).mpr ⟨c, hc, hpc⟩
  loopAt k w hk := (h.mutex.holder (.loop k)).mpr ⟨w, hk⟩
  openInc ho := by
    obtain ⟨i, hi, a, b, c, d, _⟩ := cur_of_open (ho ▸ h.incs)
    exact ⟨i, hi, a, b, c, d⟩
  closedInc k i hi := (h.incs.each k i hi).closed
  loopDone k hk ho := by
    obtain ⟨i, hi, hl⟩ := Option.map_eq_some_iff.mp hk
    exact ((h.incs.each k i hi).untouched ho).2.2.2.2 hl
  monBuf := h.mon.buf
  monCount := h.mon.count

theorem openAt_iff_cur {s : Sys} (hne : s.incs ≠ []) (k : Nat) : s.openAt k ↔ (s.isOpen = true ∧ k = s.cur) := by
  have : 0 < s.incs.length := List.length_pos_iff.mpr hne
  unfold Sys.openAt Sys.cur; constructor <;> (rintro ⟨a, b⟩; exact ⟨a, by omega⟩)

theorem loopPc_not_at_of_mu_none {s : Sys} (h : SysInv s) (hmu : s.mu = none) (k : Nat) (w : Closer) :
    s.loopPc k ≠ some (.atSignal w) := by
  intro hk; have := h.loopAt k w hk; simp [hmu] at this

theorem curSig_zero {s : Sys} (h : SysInv s) (ho : s.isOpen = true) : s.curSig = 0 := by
  obtain ⟨i, hi, h1, _⟩ := h.openInc ho
  simp [Sys.curSig, Sys.sigOf, h.fresh, hi, h1]

theorem inv_reachable {s : Sys} (h : Reachable s) : SysInv s := (reachable_indInv h).sysInv

end FV.Adapter
