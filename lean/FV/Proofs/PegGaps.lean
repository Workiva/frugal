/-
White space and comments of the regenerated grammar (`WS`, `_`, `__`): what the three gap rules
consume.  `IsGap body g`: the text `g` is a run of items of the repetition body `body`, whatever
follows; the rule theorems (`PegTypes`, `PegDecls`) take gaps as arbitrary texts with this
property, so they hold for every white space / comment the grammar admits at that place.
Comments are gaps: `/* … */` (an item of `__`, and of `_` when it has no newline), `// …\n` and
`# …\n` (items of `__`); with white space and the newline these are all the items of the three gap
rules, and `IsGap.append` concatenates them (`UGapText`, `UUGapText`).
The numerals in the fuel bounds: see the note on bounds in `Proofs/Peg.lean` (section on combinators).
-/
import FV.Proofs.PegIdl

namespace FV.PegIdl
open FV.Peg FV.Generated FV.Act

/-- A run of items of a repetition body, without the final failure. -/
inductive Items (g : Grammar) (e : Expr) (k : Nat) : List Char → List Tree → List Char → Prop
  | nil {inp} : Items g e k inp [] inp
  | cons {inp t mid ts rest} : ParsesTo g e inp t mid k → Items g e k mid ts rest → Items g e k inp (t :: ts) rest

theorem Items.mono {g e k k' inp ts rest} (h : Items g e k inp ts rest) (hk : k ≤ k') : Items g e k' inp ts rest := by
  induction h with
  | nil => exact .nil
  | cons hp _ ih => exact .cons (hp.mono hk) ih

theorem Items.append {g e k a ts1 b ts2 c} (h1 : Items g e k a ts1 b) (h2 : Items g e k b ts2 c) : Items g e k a (ts1 ++ ts2) c := by
  induction h1 with
  | nil => exact h2
  | cons hp _ ih => exact .cons hp (ih h2)

theorem Items.starRun {g e k inp ts rest} (h : Items g e k inp ts rest) (hf : FailsOn g e rest k) : StarRun g e k inp ts rest := by
  induction h with
  | nil => exact .done hf
  | cons hp _ ih => exact .step hp (ih hf)

/-- `g` is consumed item by item by the repetition body `body`, whatever text follows. -/
def IsGap (body : Expr) (g : List Char) : Prop :=
  ∀ next, ∃ ts, Items grammar body (g.length + 60) (g ++ next) ts next ∧ ts.length ≤ g.length

theorem IsGap.nil (body : Expr) : IsGap body [] := fun _ => ⟨[], .nil, Nat.le_refl _⟩

theorem IsGap.append {body : Expr} {g1 g2 : List Char} (h1 : IsGap body g1) (h2 : IsGap body g2) : IsGap body (g1 ++ g2) := by
  intro next
  obtain ⟨ts2, i2, l2⟩ := h2 next
  obtain ⟨ts1, i1, l1⟩ := h1 (g2 ++ next)
  refine ⟨ts1 ++ ts2, ?_, by simp; omega⟩
  rw [List.append_assoc]
  exact (i1.mono (by simp)).append (i2.mono (by simp))

theorem IsGap.single {body : Expr} {g : List Char} (hg : g ≠ []) {k : Nat} (hk : k ≤ g.length + 60)
    (h : ∀ next, ∃ t, ParsesTo grammar body (g ++ next) t next k) : IsGap body g := fun next => by
  obtain ⟨t, ht⟩ := h next
  exact ⟨[t], .cons (ht.mono hk) .nil, List.length_pos_iff.2 hg⟩

theorem IsGap.consumes {n : String} {body : Expr} (hl : grammar.lookup n = some (.star body)) {g next : List Char}
    (hg : IsGap body g) {k : Nat} (hk : k ≤ 60) (hn : FailsOn grammar body next k) :
    ∃ ts, ParsesTo grammar (.ref n) (g ++ next) (.seq ts) next (2 * g.length + 70) := by
  obtain ⟨ts, hi, hlen⟩ := hg next
  exact ⟨ts, (ParsesTo.ref hl (ParsesTo.star (hi.starRun (hn.mono (by omega))))).mono (by omega)⟩

/-- The repetition bodies of `WS`, `_` and `__`. -/
def wsBody : Expr := .ref "Whitespace"
def uBody : Expr := .choice [.ref "Whitespace", .ref "MultiLineCommentNoLineTerminator"]
def uuBody : Expr := .choice [.ref "Whitespace", .ref "EOL", .ref "Comment"]

/-- The text starts with a character that starts no gap item (or is empty): a token follows. -/
def TokHead (x : List Char) : Prop := ∀ c r, x = c :: r → tokC c = true

theorem ws_matcher : CharMatcher grammar (.ref "Whitespace") wsC 2 := CharMatcher.ref_cls lk_Whitespace

theorem eol_fails {x : List Char} (h : HeadP (fun c => c ≠ '\n') x) : FailsOn grammar (.ref "EOL") x 2 :=
  FailsOn.ref lk_EOL (FailsOn.lit_head h)

theorem IsGap.wsChar_ws (c : Char) (h : wsC c = true) : IsGap wsBody [c] :=
  IsGap.single (by simp) (k := 2) (by simp) fun next => ⟨_, ws_matcher.parses next h⟩

theorem IsGap.wsChar_u (c : Char) (h : wsC c = true) : IsGap uBody [c] :=
  IsGap.single (by simp) (Nat.le_refl _) fun next => ⟨_, (ParsesTo.choice (ChoiceRun.head (ws_matcher.parses next h))).mono (by simp)⟩

theorem IsGap.wsChar_uu (c : Char) (h : wsC c = true) : IsGap uuBody [c] :=
  IsGap.single (by simp) (Nat.le_refl _) fun next => ⟨_, (ParsesTo.choice (ChoiceRun.head (ws_matcher.parses next h))).mono (by simp)⟩

theorem IsGap.newline_uu : IsGap uuBody ['\n'] :=
  IsGap.single (by simp) (Nat.le_refl _) fun next => ⟨_, (ParsesTo.choice (ChoiceRun.tail (ws_matcher.fails (HeadP.cons (by decide)))
    (ChoiceRun.head (ParsesTo.ref lk_EOL (ParsesTo.lit_append ['\n'] next))))).mono (by simp)⟩

def IsWs (w : List Char) : Prop := ∀ c ∈ w, wsC c = true

theorem IsGap.of_ws {body : Expr} (h1 : ∀ c, wsC c = true → IsGap body [c]) : ∀ w, IsWs w → IsGap body w
  | [], _ => IsGap.nil body
  | c :: t, hw => (h1 c (List.forall_mem_cons.1 hw).1).append (IsGap.of_ws h1 t (List.forall_mem_cons.1 hw).2)

theorem IsWs.gap_ws {w} (h : IsWs w) : IsGap wsBody w := IsGap.of_ws IsGap.wsChar_ws w h
theorem IsWs.gap_u {w} (h : IsWs w) : IsGap uBody w := IsGap.of_ws IsGap.wsChar_u w h
theorem IsWs.gap_uu {w} (h : IsWs w) : IsGap uuBody w := IsGap.of_ws IsGap.wsChar_uu w h

theorem docstring_fails {x : List Char} (h : matchLit false ['/', '*', '*', '@'] x = none) : FailsOn grammar (.ref "DocString") x 8 :=
  (FailsOn.ref lk_DocString (FailsOn.act (FailsOn.seq (SeqFail.head (FailsOn.lit h))))).mono (by decide)

/-- Not white space and not `/`: where rule `_` stops. -/
def UHead (x : List Char) : Prop := HeadP (fun c => wsC c = false ∧ c ≠ '/') x

theorem TokHead.uhead {x} (h : TokHead x) : UHead x := HeadP.mono h fun _ => tokC_not_ws

/-- `MultiLineComment` and `MultiLineCommentNoLineTerminator` (the tail of the rule is `tl`) on a text
that does not start with `/*`. -/
theorem blockComment_fails {n : String} {tl : List Expr} (hl : grammar.lookup n = some (.seq (.notP (.ref "DocString") :: .lit ['/', '*'] false :: tl)))
    (htl : tl.length = 2) {x : List Char} (h : matchLit false ['/', '*'] x = none) : FailsOn grammar (.ref n) x 16 :=
  (FailsOn.ref hl (FailsOn.seq (k := 9) (SeqFail.tail (ParsesTo.notP (docstring_fails (matchLit_append_none ['*', '@'] h)))
    (SeqFail.head ((FailsOn.lit h).mono (by decide)))))).mono (by simp [htl])

theorem uBody_fails {x : List Char} (h : UHead x) : FailsOn grammar uBody x 20 :=
  FailsOn.choice (k := 16) (allFail_cons ((ws_matcher.fails (h.mono fun _ hc => hc.1)).mono (by decide))
    (allFail_cons (blockComment_fails lk_MLCN rfl (matchLit_head (h.mono fun _ hc => hc.2))) allFail_nil))

/-- Rule `_` consumes exactly a gap of its kind when neither white space nor `/` follows. -/
theorem u_consumes (g next : List Char) (hg : IsGap uBody g) (hn : UHead next) :
    ∃ ts, ParsesTo grammar (.ref "_") (g ++ next) (.seq ts) next (2 * g.length + 70) :=
  hg.consumes lk_U (by decide) (uBody_fails hn)

/-- Rule `WS` consumes exactly a run of white space when no white space follows. -/
theorem ws_consumes (w next : List Char) (hw : IsWs w) (hn : StopsAt wsC next) :
    ∃ ts, ParsesTo grammar (.ref "WS") (w ++ next) (.seq ts) next (2 * w.length + 70) :=
  hw.gap_ws.consumes lk_WS (by decide) (ws_matcher.fails hn)

theorem comment_fails {x : List Char} (h : TokHead x) : FailsOn grammar (.ref "Comment") x 21 := by
  have hs : HeadP (fun c => c ≠ '/') x := HeadP.mono h fun _ hc => ne_of_class hc (by decide)
  have hh : HeadP (fun c => c ≠ '#') x := HeadP.mono h fun _ hc => ne_of_class hc (by decide)
  have hsl : FailsOn grammar (.ref "SingleLineComment") x 10 :=
    FailsOn.ref lk_SLC (FailsOn.choice (k := 5) (allFail_cons (FailsOn.seq (k := 1) (SeqFail.head (FailsOn.lit_head hs)))
      (allFail_cons (FailsOn.seq (k := 1) (SeqFail.head (FailsOn.lit_head hh))) allFail_nil)))
  exact FailsOn.ref lk_Comment (FailsOn.choice (k := 16) (allFail_cons (blockComment_fails lk_MLC rfl (matchLit_head hs))
    (allFail_cons (hsl.mono (by decide)) allFail_nil)))

/-- Where rule `__` stops: its repetition body fails. -/
def UUStop (x : List Char) : Prop := FailsOn grammar uuBody x 35

theorem TokHead.uustop {x} (h : TokHead x) : UUStop x :=
  (FailsOn.choice (k := 21) (allFail_cons ((ws_matcher.fails (h.uhead.mono fun _ hc => hc.1)).mono (by decide))
    (allFail_cons ((eol_fails (HeadP.mono h fun _ hc => ne_of_class hc (by decide))).mono (by decide)) (allFail_cons (comment_fails h) allFail_nil)))).mono (by decide)

/-- Rule `__` consumes exactly a gap of its kind when its body fails on what follows. -/
theorem uu_consumes (g next : List Char) (hg : IsGap uuBody g) (hn : UUStop next) :
    ∃ ts, ParsesTo grammar (.ref "__") (g ++ next) (.seq ts) next (2 * g.length + 70) :=
  hg.consumes lk_UU (by decide) hn

/-- A comment as an item of `__`: the alternatives before `Comment` fail on its first character. -/
theorem uuBody_comment {x rest : List Char} {t : Tree} {k : Nat} (hx : HeadP (fun c => wsC c = false ∧ c ≠ '\n') x)
    (h : ParsesTo grammar (.ref "Comment") x t rest k) (hk : 2 ≤ k) : ParsesTo grammar uuBody x t rest (k + 5) :=
  (ParsesTo.choice (ChoiceRun.tail ((ws_matcher.fails (hx.mono fun _ h => h.1)).mono hk)
    (ChoiceRun.tail ((eol_fails (hx.mono fun _ h => h.2)).mono hk) (ChoiceRun.head h)))).mono (by fuel_le)

/-- `*/` does not occur in the text. -/
def noClose : List Char → Bool
  | [] => true
  | [_] => true
  | a :: b :: r => !(a == '*' && b == '/') && noClose (b :: r)

theorem noClose_tail {c : Char} {r : List Char} (h : noClose (c :: r) = true) : noClose r = true := by
  cases r with
  | nil => rfl
  | cons b r' => simp only [noClose, Bool.and_eq_true] at h; exact h.2

theorem noClose_suffix : ∀ (pre l : List Char), noClose (pre ++ l) = true → noClose l = true := by
  intro pre
  induction pre with
  | nil => intro l h; simpa using h
  | cons a p ih => intro l h; exact ih l (noClose_tail (by simpa using h))

/-- Inside a comment body without `*/`, the closer does not match before the end. -/
theorem noClose_match (c : Char) (suf next : List Char) (h : noClose (c :: suf) = true) :
    matchLit false ['*', '/'] (c :: suf ++ ('*' :: '/' :: next)) = none := by
  by_cases hc : c = '*'
  · subst hc
    cases suf with
    | nil => simp [matchLit]
    | cons b r =>
      have hb : b ≠ '/' := by intro e; subst e; simp [noClose] at h
      simp [matchLit, hb]
  · simp [matchLit, hc]

def scanBody (stopE : Expr) : Expr := .seq [.notP stopE, .ref "SourceChar"]

/-- `( !stop SourceChar )*` runs over `body` and stops at `tail`. -/
theorem scan_run (stopE : Expr) (k : Nat) (tail : List Char) (t0 : Tree) (r0 : List Char) (hstop : ParsesTo grammar stopE tail t0 r0 k) :
    ∀ (body : List Char), (∀ pre c suf, body = pre ++ c :: suf → FailsOn grammar stopE (c :: suf ++ tail) k) →
      StarRun grammar (scanBody stopE) (k + 6) (body ++ tail) (body.map fun c => Tree.seq [.nil, .text [c]]) tail
  | [], _ => .done ((FailsOn.seq (SeqFail.head (FailsOn.notP hstop))).mono (by fuel_le))
  | c :: b, hgo =>
    .step ((ParsesTo.seq (k := k + 2) (SeqRun.cons_le (ParsesTo.notP (hgo [] c b rfl)) (by omega)
        (SeqRun.cons_le (ParsesTo.ref lk_SourceChar ParsesTo.any) (by omega) SeqRun.nil))).mono (by fuel_le))
      (scan_run stopE k tail t0 r0 hstop b fun pre c' suf e => hgo (c :: pre) c' suf (by simp [e]))

/-- A block comment `/*` body `*/` whose body has no `*/` and does not make it a doc comment (`/**@`). -/
def BlockBody (body : List Char) : Prop :=
  noClose body = true ∧ matchLit false ['*', '@'] body = none

theorem notDoc_of_block (body next : List Char) (h : matchLit false ['*', '@'] body = none) :
    matchLit false ['/', '*', '*', '@'] ('/' :: '*' :: body ++ ('*' :: '/' :: next)) = none := by
  cases body with
  | nil => simp [matchLit]
  | cons a r =>
    by_cases ha : a = '*'
    · subst ha
      cases r with
      | nil => simp [matchLit]
      | cons b r' =>
        have : b ≠ '@' := by intro e; subst e; simp [matchLit] at h
        simp [matchLit, this]
    · simp [matchLit, ha]

/-- `*/` closes the scan of a body without `*/`, and not before its end. -/
theorem block_scan (body next : List Char) (hb : noClose body = true) :
    StarRun grammar (scanBody (.lit ['*', '/'] false)) 7 (body ++ ('*' :: '/' :: next))
      (body.map fun c => Tree.seq [.nil, .text [c]]) ('*' :: '/' :: next) :=
  scan_run (.lit ['*', '/'] false) 1 ('*' :: '/' :: next) _ _ (ParsesTo.lit_append ['*', '/'] next) body fun pre c suf e => by
    subst e
    exact FailsOn.lit (noClose_match c suf next (noClose_suffix pre _ hb))

/-- The two block-comment rules, `/*` `(!stop SourceChar)*` `*/` behind `!DocString`, given the scan of the body. -/
theorem blockComment_parses {n : String} {stopE : Expr}
    (hl : grammar.lookup n = some (.seq [.notP (.ref "DocString"), .lit ['/', '*'] false, .star (scanBody stopE), .lit ['*', '/'] false]))
    {body next : List Char} (hb : BlockBody body) {k : Nat} (hk : 9 ≤ k)
    (hrun : StarRun grammar (scanBody stopE) k (body ++ ('*' :: '/' :: next)) (body.map fun c => Tree.seq [.nil, .text [c]]) ('*' :: '/' :: next)) :
    ∃ t, ParsesTo grammar (.ref n) (('/' :: '*' :: body ++ ['*', '/']) ++ next) t next (body.length + k + 9) := by
  rw [show ('/' :: '*' :: body ++ ['*', '/']) ++ next = '/' :: '*' :: body ++ ('*' :: '/' :: next) by simp]
  exact ⟨_, (ParsesTo.ref hl (ParsesTo.seq (k := body.length + k + 2)
    (SeqRun.cons_le (ParsesTo.notP (docstring_fails (notDoc_of_block body next hb.2))) (by omega)
    (SeqRun.cons_le (ParsesTo.lit_append ['/', '*'] _) (by omega)
    (SeqRun.cons_le (ParsesTo.star hrun) (by fuel_le)
    (SeqRun.cons_le (ParsesTo.lit_append ['*', '/'] next) (by omega) SeqRun.nil)))))).mono (by fuel_le)⟩

theorem IsGap.block_uu (body : List Char) (hb : BlockBody body) : IsGap uuBody ('/' :: '*' :: body ++ ['*', '/']) :=
  IsGap.single (by simp) (k := body.length + 23 + 5) (by fuel_le) fun next => by
    obtain ⟨t, ht⟩ := blockComment_parses lk_MLC hb (Nat.le_refl 9) ((block_scan body next hb.1).mono (by decide))
    exact ⟨t, uuBody_comment (HeadP.cons (by decide)) ((ParsesTo.ref lk_Comment (ParsesTo.choice (ChoiceRun.head ht))).mono (by fuel_le)) (by omega)⟩

theorem IsGap.block_u (body : List Char) (hb : BlockBody body) (hnl : ∀ c ∈ body, c ≠ '\n') :
    IsGap uBody ('/' :: '*' :: body ++ ['*', '/']) :=
  IsGap.single (by simp) (k := body.length + 30) (by fuel_le) fun next => by
    have hrun := scan_run (.choice [.lit ['*', '/'] false, .ref "EOL"]) 6 ('*' :: '/' :: next) _ _
      ((ParsesTo.choice (k := 1) (ChoiceRun.head (ParsesTo.lit_append ['*', '/'] next))).mono (by decide)) body fun pre c suf e => by
        subst e
        exact FailsOn.choice (k := 2) (allFail_cons ((FailsOn.lit (noClose_match c suf next (noClose_suffix pre _ hb.1))).mono (by decide))
          (allFail_cons (eol_fails (HeadP.cons (hnl c (by simp)))) allFail_nil))
    obtain ⟨t, ht⟩ := blockComment_parses lk_MLCN hb (by decide : 9 ≤ 12) hrun
    exact ⟨t, (ParsesTo.choice (k := body.length + 21) (ChoiceRun.tail ((ws_matcher.fails (HeadP.cons (by decide))).mono (by omega))
      (ChoiceRun.head ht))).mono (by fuel_le)⟩

/-- The opener of a line comment: `//` or `#`. -/
def LineOpener (o : List Char) : Prop := o = ['/', '/'] ∨ o = ['#']

theorem slc_parses (o body next : List Char) (ho : LineOpener o) (hnl : ∀ c ∈ body, c ≠ '\n') :
    ∃ t, ParsesTo grammar (.ref "SingleLineComment") (o ++ (body ++ ('\n' :: next))) t ('\n' :: next) (body.length + 25) := by
  have hscan := scan_run (.ref "EOL") 2 ('\n' :: next) _ _ (ParsesTo.ref lk_EOL (ParsesTo.lit_append ['\n'] next)) body fun pre c suf e => by
    subst e
    exact eol_fails (HeadP.cons (hnl c (by simp)))
  have hs : ParsesTo grammar (.seq [.lit o false, .star (scanBody (.ref "EOL"))]) (o ++ (body ++ ('\n' :: next))) _ ('\n' :: next) (body.length + 14) :=
    (ParsesTo.seq (k := body.length + 10) (SeqRun.cons_le (ParsesTo.lit_append o _) (by omega)
      (SeqRun.cons_le (ParsesTo.star hscan) (by fuel_le) SeqRun.nil))).mono (by fuel_le)
  rcases ho with rfl | rfl
  · exact ⟨_, (ParsesTo.ref lk_SLC (ParsesTo.choice (ChoiceRun.head hs))).mono (by fuel_le)⟩
  · exact ⟨_, (ParsesTo.ref lk_SLC (ParsesTo.choice (ChoiceRun.tail
      ((FailsOn.seq (k := 1) (SeqFail.head (FailsOn.lit_head (HeadP.cons (by decide))))).mono (by fuel_le)) (ChoiceRun.head hs)))).mono (by fuel_le)⟩

theorem IsGap.line_uu (o body : List Char) (ho : LineOpener o) (hnl : ∀ c ∈ body, c ≠ '\n') :
    IsGap uuBody (o ++ (body ++ ['\n'])) := by
  intro next
  obtain ⟨t, ht⟩ := slc_parses o body next ho hnl
  have ho' : HeadP (fun c => wsC c = false ∧ c ≠ '\n') (o ++ (body ++ ('\n' :: next))) ∧
      matchLit false ['/', '*'] (o ++ (body ++ ('\n' :: next))) = none ∧ 1 ≤ o.length := by
    rcases ho with rfl | rfl
    · exact ⟨HeadP.cons (by decide), matchLit_clash _ (by decide), by decide⟩
    · exact ⟨HeadP.cons (by decide), matchLit_head (HeadP.cons (by decide)), by decide⟩
  rw [show (o ++ (body ++ ['\n'])) ++ next = o ++ (body ++ ('\n' :: next)) by simp]
  have hc := ParsesTo.ref lk_Comment (ParsesTo.choice (k := body.length + 25) (ChoiceRun.tail
    ((blockComment_fails lk_MLC rfl ho'.2.1).mono (by omega)) (ChoiceRun.head ht)))
  obtain ⟨ts, hi, hl⟩ := IsGap.newline_uu next
  exact ⟨t :: ts, .cons ((uuBody_comment ho'.1 hc (by omega)).mono (by fuel_le)) (hi.mono (by fuel_le)), by simp at hl ⊢; omega⟩

/-- Texts made of the items of `_`: white space characters and one-line block comments
`/*` body `*/` (body without `*/`, without newline, not starting with `*@`). -/
inductive UGapText : List Char → Prop
  | nil : UGapText []
  | ws (c : Char) (h : wsC c = true) : UGapText [c]
  | block (body : List Char) (hb : BlockBody body) (hnl : ∀ c ∈ body, c ≠ '\n') : UGapText ('/' :: '*' :: body ++ ['*', '/'])
  | append {a b : List Char} : UGapText a → UGapText b → UGapText (a ++ b)

/-- Texts made of the items of `__`: white space, newlines, block comments (also multi-line),
`//` and `#` comments up to and including their newline. -/
inductive UUGapText : List Char → Prop
  | nil : UUGapText []
  | ws (c : Char) (h : wsC c = true) : UUGapText [c]
  | newline : UUGapText ['\n']
  | block (body : List Char) (hb : BlockBody body) : UUGapText ('/' :: '*' :: body ++ ['*', '/'])
  | line (o body : List Char) (ho : LineOpener o) (hnl : ∀ c ∈ body, c ≠ '\n') : UUGapText (o ++ (body ++ ['\n']))
  | append {a b : List Char} : UUGapText a → UUGapText b → UUGapText (a ++ b)

theorem UGapText.isGap {g} (h : UGapText g) : IsGap uBody g := by
  induction h with
  | nil => exact IsGap.nil _
  | ws c h => exact IsGap.wsChar_u c h
  | block body hb hnl => exact IsGap.block_u body hb hnl
  | append _ _ ih1 ih2 => exact ih1.append ih2

theorem UUGapText.isGap {g} (h : UUGapText g) : IsGap uuBody g := by
  induction h with
  | nil => exact IsGap.nil _
  | ws c h => exact IsGap.wsChar_uu c h
  | newline => exact IsGap.newline_uu
  | block body hb => exact IsGap.block_uu body hb
  | line o body ho hnl => exact IsGap.line_uu o body ho hnl
  | append _ _ ih1 ih2 => exact ih1.append ih2

theorem UGapText.toUU {g} (h : UGapText g) : UUGapText g := by
  induction h with
  | nil => exact .nil
  | ws c h => exact .ws c h
  | block body hb _ => exact .block body hb
  | append _ _ ih1 ih2 => exact .append ih1 ih2

/-- A gap text starts with a character that starts a gap item (not a token character). -/
theorem UUGapText.head {g} (h : UUGapText g) : HeadP (fun c => tokC c = false) g := by
  induction h with
  | nil => exact HeadP.nil
  | ws c h => exact HeadP.cons (by simp [tokC, h])
  | newline => exact HeadP.cons (by decide)
  | block body hb => exact HeadP.cons (by decide)
  | line o body ho hnl => rcases ho with rfl | rfl <;> exact HeadP.cons (by decide)
  | append _ _ ih1 ih2 => exact ih1.append ih2

end FV.PegIdl
