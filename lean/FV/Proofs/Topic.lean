/-
Lemmas for C08 (Props/C08.lean): the compiler's regular-expression view of a prefix string
agrees with the token view (scan / replace), and the target languages' formatting
constructs read a pasted prefix made of plain tokens as text and variables.
-/
import FV.Model.Topic

namespace FV.Topic

theorem okWord_ne (c : Char) (h : okWordChar c = true) : c ≠ '{' ∧ c ≠ '}' := by
  simp only [okWordChar, Bool.not_eq_true', Bool.or_eq_false_iff, beq_eq_false_iff_ne] at h
  exact ⟨h.1.2, h.2⟩

/-- What `ScopePrefix.Template(repl)` leaves of one token: the placeholder for a variable, the text otherwise. -/
def Tok.piece (repl : Str) (t : Tok) : Str := if t.isVar then repl else t.text
/-- `render` for the tokens after the first: each preceded by its '.'. -/
def renderTail (repl : Str) : List Tok → Str
  | [] => []
  | t :: ts => '.' :: (t.piece repl ++ renderTail repl ts)
/-- The prefix string with `repl` in place of every variable: `ScopePrefix.Template(repl)`, on tokens. -/
def render (repl : Str) : List Tok → Str
  | [] => []
  | t :: ts => t.piece repl ++ renderTail repl ts
/-- `scope.Prefix.Variables`, on tokens. -/
def varNames (ts : List Tok) : List Str := ts.filterMap Tok.varName

/-- What `scanAux` and `replAux` share: the automaton of the regular expression `{\w*}`. They differ in what
they put out for a character passed over (`emit`) and for a match (`hit`). -/
structure Scans {β : Type} (g : Option Str → Str → List β) (emit : Char → List β) (hit : Str → List β) : Prop where
  idle : ∀ c t, c ≠ '{' → g none (c :: t) = emit c ++ g none t
  opens : ∀ t, g none ('{' :: t) = g (some []) t
  word : ∀ acc c t, isWordChar c = true → g (some acc) (c :: t) = g (some (acc ++ [c])) t
  close : ∀ acc t, g (some acc) ('}' :: t) = hit acc ++ g none t
  drop : ∀ acc c t, isWordChar c = false → c ≠ '}' → c ≠ '{' →
    g (some acc) (c :: t) = ('{' :: (acc ++ [c])).flatMap emit ++ g none t

namespace Scans
variable {β : Type} {g : Option Str → Str → List β} {emit : Char → List β} {hit : Str → List β}

theorem skip (h : Scans g emit hit) (s r : Str) (hs : ∀ c ∈ s, c ≠ '{') :
    g none (s ++ r) = s.flatMap emit ++ g none r := by
  induction s with
  | nil => rfl
  | cons c s ih =>
    rw [List.cons_append, h.idle c _ (hs c (by simp)), ih fun d hd => hs d (by simp [hd]),
      List.flatMap_cons, List.append_assoc]

/-- Inside braces: word characters accumulate and the closing brace completes the match; the first other
character abandons the candidate, and the rest of a `PrefixWord` opens no new one. -/
theorem inside (h : Scans g emit hit) (s r acc : Str) (hok : s.all okWordChar = true) :
    g (some acc) (s ++ '}' :: r) =
      (if s.all isWordChar then hit (acc ++ s) else ('{' :: (acc ++ s ++ ['}'])).flatMap emit) ++ g none r := by
  induction s generalizing acc with
  | nil => simp [h.close]
  | cons c s ih =>
    simp only [List.all_cons, Bool.and_eq_true] at hok
    have hne := okWord_ne c hok.1
    cases hw : isWordChar c with
    | true => simp [h.word acc c _ hw, ih _ hok.2, hw]
    | false =>
      have hs : ∀ d ∈ s ++ ['}'], d ≠ '{' := fun d hd => by
        rcases List.mem_append.1 hd with hd | hd
        · exact (okWord_ne d (List.all_eq_true.1 hok.2 d hd)).1
        · rw [List.mem_singleton.1 hd]; decide
      have := h.skip (s ++ ['}']) r hs
      simp only [List.append_assoc, List.singleton_append] at this
      simp [h.drop acc c _ hw hne.2 hne.1, this, hw]

/-- What the automaton puts out for one token. -/
def out (emit : Char → List β) (hit : Str → List β) (t : Tok) : List β :=
  if t.isVar then hit t.inner else t.text.flatMap emit

theorem tok (h : Scans g emit hit) (t : Tok) (r : Str) (ht : t.wf = true) :
    g none (t.text ++ r) = out emit hit t ++ g none r := by
  simp only [Tok.wf, Bool.and_eq_true] at ht
  cases t with
  | word s => exact h.skip s r fun c hc => (okWord_ne c (List.all_eq_true.1 ht.2 c hc)).1
  | braced s =>
    have := h.inside s r [] ht.2
    rw [List.nil_append] at this
    rw [Tok.text, List.cons_append, List.append_assoc, h.opens]
    exact this

theorem tail_cons (h : Scans g emit hit) (t : Tok) (ts : List Tok) (r : Str) (ht : t.wf = true) :
    g none (tailString (t :: ts) ++ r) = emit '.' ++ (out emit hit t ++ g none (tailString ts ++ r)) := by
  rw [tailString, List.cons_append, h.idle _ _ (by decide), List.append_assoc, h.tok t _ ht]

end Scans

theorem close_not_word : isWordChar '}' = false := by decide

theorem scans_scan : Scans scanAux (fun _ => []) (fun a => [a]) :=
  ⟨fun c t hc => by simp [scanAux, hc], fun t => by simp [scanAux], fun acc c t hc => by simp [scanAux, hc],
   fun acc t => by simp [scanAux, close_not_word], fun acc c t hw h1 h2 => by simp [scanAux, hw, h1, h2]⟩

theorem scans_repl (repl : Str) : Scans (replAux repl) (fun c => [c]) (fun _ => repl) :=
  ⟨fun c t hc => by simp [replAux, hc], fun t => by simp [replAux], fun acc c t hc => by simp [replAux, hc],
   fun acc t => by simp [replAux, close_not_word], fun acc c t hw h1 h2 => by simp [replAux, hw, h1, h2]⟩

theorem out_scan (t : Tok) : Scans.out (fun _ => []) (fun a => [a]) t = t.varName.toList := by
  cases t with
  | word s => simp [Scans.out, Tok.isVar, Tok.varName]
  | braced s => cases hw : s.all isWordChar <;> simp [Scans.out, Tok.isVar, Tok.varName, Tok.inner, hw]

theorem out_repl (repl : Str) (t : Tok) : Scans.out (fun c => [c]) (fun _ => repl) t = t.piece repl := by
  simp [Scans.out, Tok.piece]

theorem tail_scan (ts : List Tok) (r : Str) (h : ∀ t ∈ ts, t.wf = true) :
    scanAux none (tailString ts ++ r) = varNames ts ++ scanAux none r := by
  induction ts with
  | nil => rfl
  | cons t ts ih =>
    rw [scans_scan.tail_cons t ts r (h t (by simp)), ih fun u hu => h u (by simp [hu]), out_scan]
    cases hv : t.varName <;> simp [varNames, hv]

theorem tail_repl (repl : Str) (ts : List Tok) (r : Str) (h : ∀ t ∈ ts, t.wf = true) :
    replAux repl none (tailString ts ++ r) = renderTail repl ts ++ replAux repl none r := by
  induction ts with
  | nil => rfl
  | cons t ts ih =>
    rw [(scans_repl repl).tail_cons t ts r (h t (by simp)), ih fun u hu => h u (by simp [hu]), out_repl]
    simp [renderTail]

theorem scanVars_prefixString (ts : List Tok) (h : ∀ t ∈ ts, t.wf = true) :
    scanVars (prefixString ts) = varNames ts := by
  cases ts with
  | nil => rfl
  | cons t ts =>
    -- `tailString (t :: ts)` is '.' followed by the prefix string, and the '.' is passed over
    have := tail_scan (t :: ts) [] h
    rwa [List.append_nil, tailString, scans_scan.idle _ _ (by decide), scanAux, List.append_nil] at this

theorem templateStr_prefixString (repl : Str) (ts : List Tok) (h : ∀ t ∈ ts, t.wf = true) :
    templateStr repl (prefixString ts) = render repl ts := by
  cases ts with
  | nil => rfl
  | cons t ts =>
    have := tail_repl repl (t :: ts) [] h
    rw [List.append_nil, tailString, (scans_repl repl).idle _ _ (by decide)] at this
    simpa [renderTail, render, replAux, templateStr, prefixString] using this

theorem eval_cons (e : Env) (s : Seg) (t : Template) :
    eval e (s :: t) = (evalSeg e s).bind fun a => (eval e t).map (a ++ ·) := by
  rw [eval]; cases evalSeg e s <;> cases eval e t <;> rfl
theorem eval_lit (e : Env) (s : Str) (t : Template) : eval e (.lit s :: t) = (eval e t).map (s ++ ·) :=
  eval_cons e _ t
theorem eval_var (e : Env) (i : Nat) (t : Template) :
    eval e (.var i :: t) = (eval e t).map (e.vals.getD i [] ++ ·) :=
  eval_cons e _ t

theorem eval_append (e : Env) (a b : Template) :
    eval e (a ++ b) = (eval e a).bind fun x => (eval e b).map (x ++ ·) := by
  induction a with
  | nil => simp [eval]
  | cons s a ih =>
    rw [List.cons_append, eval_cons, eval_cons, ih]
    cases evalSeg e s with
    | none => rfl
    | some y =>
      cases eval e a with
      | none => rfl
      | some z => cases eval e b <;> simp

/-- The index of the next variable after the tokens `ts`, when the first of them starts at index `i`. -/
def endIdx : List Tok → Nat → Nat
  | [], i => i
  | t :: ts, i => endIdx ts (nextIdx t i)

theorem nextIdx_eq (t : Tok) (i : Nat) : nextIdx t i = i + t.varName.toList.length := by
  cases t with
  | word s => rfl
  | braced s => cases h : s.all isWordChar <;> simp [nextIdx, Tok.isVar, Tok.varName, h]

theorem endIdx_eq (ts : List Tok) (i : Nat) : endIdx ts i = i + (varNames ts).length := by
  induction ts generalizing i with
  | nil => rfl
  | cons t ts ih =>
    rw [endIdx, ih, nextIdx_eq]
    cases h : t.varName <;> simp [varNames, h] <;> omega

theorem lt_endIdx (t : Tok) (ts : List Tok) (i : Nat) (hv : t.isVar = true) : i < endIdx (t :: ts) i := by
  rw [endIdx, endIdx_eq, nextIdx, if_pos hv]; omega

/-- `f` reads the characters of class `P` as text and the text `vs[i]`, in front of a rest satisfying `F`,
as the `i`-th variable. Sprintf / `String.format`, `str.format`, Dart interpolation and a plain string
literal (no variables) are the instances; the source text of a prefix is then `substPrefix vs`. -/
structure Reads (f : Str → Nat → Template) (P : Char → Bool) (vs : List Str) (F : Str → Prop) : Prop where
  nil : ∀ i, f [] i = []
  lit : ∀ c r i, P c = true → f (c :: r) i = .lit [c] :: f r i
  var : ∀ r i, i < vs.length → F r → f (vs.getD i [] ++ r) i = .var i :: f r (i + 1)
  dot : P '.' = true
  follow : ∀ r, F ('.' :: r)

namespace Reads
variable {f : Str → Nat → Template} {P : Char → Bool} {vs : List Str} {F : Str → Prop}

theorem text (h : Reads f P vs F) (e : Env) (s r : Str) (i : Nat) (hs : s.all P = true) :
    eval e (f (s ++ r) i) = (eval e (f r i)).map (s ++ ·) := by
  induction s with
  | nil => simp
  | cons c s ih =>
    simp only [List.all_cons, Bool.and_eq_true] at hs
    rw [List.cons_append, h.lit c _ i hs.1, eval_lit, ih hs.2]
    cases eval e (f r i) <;> rfl

theorem tok (h : Reads f P vs F) (e : Env) (t : Tok) (r : Str) (i : Nat)
    (ht : (t.isVar || t.text.all P) = true) (hv : t.isVar = true → i < vs.length ∧ F r) :
    eval e (f (substTok vs t i ++ r) i) = (eval e (f r (nextIdx t i))).map (substTok e.vals t i ++ ·) := by
  cases hi : t.isVar with
  | true => simp only [substTok, nextIdx, hi, if_true, h.var r i (hv hi).1 (hv hi).2, eval_var]
  | false =>
    simp only [substTok, nextIdx, hi, Bool.false_eq_true, if_false]
    exact h.text e _ r i (by simpa [hi] using ht)

/-- A non-empty token list in front of `r`: a variable is followed by the next token's '.', the last
one by `r`. -/
theorem toks (h : Reads f P vs F) (e : Env) (ts : List Tok) (r : Str) (t : Tok) (i : Nat)
    (hts : tokensOk P (t :: ts) = true) (hn : endIdx (t :: ts) i ≤ vs.length)
    (hr : lastIsVar (t :: ts) = true → F r) :
    eval e (f (substTok vs t i ++ (substTail vs ts (nextIdx t i) ++ r)) i) =
      (eval e (f r (endIdx (t :: ts) i))).map
        (fun x => substTok e.vals t i ++ (substTail e.vals ts (nextIdx t i) ++ x)) := by
  simp only [tokensOk, List.all_cons, Bool.and_eq_true] at hts
  have hi : t.isVar = true → i < vs.length := fun hv => Nat.lt_of_lt_of_le (lt_endIdx t ts i hv) hn
  induction ts generalizing t i with
  | nil =>
    simp only [substTail, List.nil_append, endIdx]
    exact h.tok e t r i hts.1 fun hv => ⟨hi hv, hr (by simpa [lastIsVar] using hv)⟩
  | cons u us ih =>
    have hu : u.isVar = true → nextIdx t i < vs.length := fun hv => Nat.lt_of_lt_of_le (lt_endIdx u us _ hv) hn
    simp only [substTail, List.cons_append, List.append_assoc, endIdx]
    rw [h.tok e t _ i hts.1 fun hv => ⟨hi hv, h.follow _⟩, h.lit _ _ _ h.dot, eval_lit,
      ih u _ hn hr (by simpa [tokensOk] using hts.2) hu]
    simp only [Option.map_map, endIdx]; rfl

theorem pfx (h : Reads f P vs F) (e : Env) (ts : List Tok) (delim : Str) (hne : ts ≠ [])
    (hts : tokensOk P ts = true) (hd : delim.all P = true) (hn : (varNames ts).length ≤ vs.length)
    (hr : lastIsVar ts = true → F delim) :
    eval e (f (substPrefix vs ts ++ delim) 0) = some (substPrefix e.vals ts ++ delim) := by
  cases ts with
  | nil => exact absurd rfl hne
  | cons t ts =>
    have hdl := h.text e delim [] (endIdx (t :: ts) 0) hd
    rw [List.append_nil, h.nil] at hdl
    rw [substPrefix, substPrefix, List.append_assoc, h.toks e ts delim t 0 hts (by rw [endIdx_eq]; omega) hr, hdl]
    simp [eval]

theorem novar (h : Reads f P vs F) : Reads f P [] (fun _ => True) :=
  ⟨h.nil, h.lit, fun _ _ hi => (nomatch hi), h.dot, fun _ => trivial⟩

end Reads

theorem pct_cons_plain (hz : Char → Bool) (c : Char) (t : Str) (i : Nat) (hc : c ≠ '%') (hzc : hz c = false) :
    pct hz (c :: t) i = .lit [c] :: pct hz t i := by
  cases t <;> simp [pct, hc, hzc]
theorem pct_var (hz : Char → Bool) (t : Str) (i : Nat) :
    pct hz ('%' :: 's' :: t) i = .var i :: pct hz t (i + 1) := by
  simp [pct]
theorem br_cons_plain (hz : Char → Bool) (c : Char) (t : Str) (i : Nat) (hc : c ≠ '{') (hc' : c ≠ '}') (hzc : hz c = false) :
    br hz (c :: t) i = .lit [c] :: br hz t i := by
  cases t <;> simp [br, hc, hc', hzc]
theorem br_var (hz : Char → Bool) (t : Str) (i : Nat) :
    br hz ('{' :: '}' :: t) i = .var i :: br hz t (i + 1) := by
  simp [br]

theorem reads_litq (hz P : Char → Bool) (hP : ∀ c, P c = true → hz c = false) (dot : P '.' = true) :
    Reads (fun s _ => litq hz s) P [] (fun _ => True) :=
  ⟨fun _ => rfl, fun c r _ hc => by simp [litq, hP c hc], fun _ _ hi => (nomatch hi), dot, fun _ => trivial⟩

theorem getD_replicate (n i : Nat) (x : Str) (h : i < (List.replicate n x).length) :
    (List.replicate n x).getD i [] = x := by
  simp at h; simp [List.getD, h]

theorem reads_pct (hz P : Char → Bool) (hP : ∀ c, P c = true → c ≠ '%' ∧ hz c = false) (dot : P '.' = true)
    (n : Nat) : Reads (pct hz) P (List.replicate n ['%', 's']) (fun _ => True) :=
  ⟨fun _ => rfl, fun c r i hc => pct_cons_plain hz c r i (hP c hc).1 (hP c hc).2,
   fun r i hi _ => by rw [getD_replicate n i _ hi]; exact pct_var hz r i, dot, fun _ => trivial⟩

theorem reads_br (hz P : Char → Bool) (hP : ∀ c, P c = true → c ≠ '{' ∧ c ≠ '}' ∧ hz c = false)
    (dot : P '.' = true) (n : Nat) : Reads (br hz) P (List.replicate n ['{', '}']) (fun _ => True) :=
  ⟨fun _ => rfl, fun c r i hc => br_cons_plain hz c r i (hP c hc).1 (hP c hc).2.1 (hP c hc).2.2,
   fun r i hi _ => by rw [getD_replicate n i _ hi]; exact br_var hz r i, dot, fun _ => trivial⟩

theorem dol_none_plain (names : List Str) (c : Char) (t : Str) (hc : c ≠ '$') (hz : hzSQ c = false) :
    dolAux names none (c :: t) = .lit [c] :: dolAux names none t := by
  simp [dolAux, hc, hz]

/-- what may follow a `$name`: nothing, or a character that ends the identifier and is plain text -/
def OkFollow (F : Str) : Prop := ∀ c F', F = c :: F' → isWordChar c = false ∧ c ≠ '$' ∧ hzSQ c = false

theorem dot_follow (F : Str) : OkFollow ('.' :: F) := by
  intro c F' h
  simp only [List.cons.injEq] at h
  rw [← h.1]; decide

/-- Dart takes the longest identifier after `$`: the name ends where the text does or at the first
character that cannot continue it. -/
theorem dol_name (names : List Str) (n acc r : Str) (h : n.all isWordChar = true) (hF : OkFollow r) :
    dolAux names (some acc) (n ++ r) = resolve names (acc ++ n) :: dolAux names none r := by
  induction n generalizing acc with
  | nil =>
    cases r with
    | nil => simp [dolAux]
    | cons c r =>
      have ⟨hw, hc, hz⟩ := hF c r rfl
      simp [dolAux, hw, hc, hz]
  | cons d n ih =>
    simp only [List.all_cons, Bool.and_eq_true] at h
    simp only [List.cons_append, dolAux, h.1, if_true]
    rw [ih _ h.2]; simp

theorem resolve_getElem (names : List Str) (hnd : names.Nodup) (i : Nat) (hi : i < names.length)
    (hne : names[i] ≠ []) : resolve names names[i] = .var i := by
  simp [resolve, hne, List.Nodup.idxOf_getElem hnd]

/-- The Dart source holds `$name` for the `i`-th variable by POSITION (the arguments of the generation-time
Sprintf), so only `i < names.length` is asked of the index. -/
theorem reads_dol (names : List Str) (P : Char → Bool) (hP : ∀ c, P c = true → c ≠ '$' ∧ hzSQ c = false)
    (dot : P '.' = true) (hnd : names.Nodup) (hw : ∀ n ∈ names, n ≠ [] ∧ n.all isWordChar = true) :
    Reads (fun s _ => dolAux names none s) P (names.map fun v => '$' :: v) OkFollow := by
  refine ⟨fun _ => rfl, fun c r _ hc => dol_none_plain names c r (hP c hc).1 (hP c hc).2,
    fun r i hi hF => ?_, dot, dot_follow⟩
  simp only [List.length_map] at hi
  have hn := hw _ (List.getElem_mem hi)
  have hd : dolAux names none ('$' :: (names[i] ++ r)) = dolAux names (some []) (names[i] ++ r) := by
    simp [dolAux]
  simp only [List.getD, List.getElem?_map, List.getElem?_eq_getElem hi, Option.map_some,
    Option.getD_some, List.cons_append, hd]
  rw [dol_name names _ [] r hn.2 hF, List.nil_append, resolve_getElem names hnd i hi hn.1]

theorem renderTail_eq (repl : Str) (n : Nat) (ts : List Tok) (i : Nat) (h : endIdx ts i ≤ n) :
    renderTail repl ts = substTail (List.replicate n repl) ts i := by
  induction ts generalizing i with
  | nil => rfl
  | cons t ts ih =>
    rw [renderTail, substTail, ih _ h, Tok.piece, substTok]
    split
    · rw [getD_replicate]; simpa using Nat.lt_of_lt_of_le (lt_endIdx t ts i ‹_›) h
    · rfl

theorem render_eq (repl : Str) (n : Nat) (ts : List Tok) (h : (varNames ts).length ≤ n) :
    render repl ts = substPrefix (List.replicate n repl) ts := by
  cases ts with
  | nil => rfl
  | cons t ts =>
    -- the prefix of `t :: ts` is its tail form without the leading '.'
    exact congrArg List.tail (renderTail_eq repl n (t :: ts) 0 (by rw [endIdx_eq]; omega))

theorem varName_none_iff (t : Tok) : t.varName = none ↔ t.isVar = false := by
  cases t with
  | word s => simp [Tok.varName, Tok.isVar]
  | braced s => by_cases h : s.all isWordChar = true <;> simp [Tok.varName, Tok.isVar, h]

theorem novars_all (ts : List Tok) (h : varNames ts = []) : ∀ t ∈ ts, t.isVar = false :=
  fun t ht => (varName_none_iff t).1 (List.filterMap_eq_nil_iff.1 h t ht)

theorem novars_tail (vals : List Str) (ts : List Tok) (i : Nat) (h : ∀ t ∈ ts, t.isVar = false) :
    substTail vals ts i = tailString ts := by
  induction ts generalizing i with
  | nil => rfl
  | cons t ts ih =>
    simp [substTail, tailString, substTok, h t (by simp), ih (nextIdx t i) fun u hu => h u (by simp [hu])]

theorem novars_prefix (vals : List Str) (ts : List Tok) (h : ∀ t ∈ ts, t.isVar = false) :
    substPrefix vals ts = prefixString ts := by
  cases ts with
  | nil => rfl
  | cons t ts => exact congrArg List.tail (novars_tail vals (t :: ts) 0 h)

theorem lastIsVar_novars (ts : List Tok) (h : ∀ t ∈ ts, t.isVar = false) : lastIsVar ts = false := by
  induction ts with
  | nil => rfl
  | cons t ts ih =>
    cases ts with
    | nil => simpa [lastIsVar] using h t (by simp)
    | cons u us => simpa [lastIsVar] using ih fun x hx => h x (by simp [hx])

theorem varNames_word (ts : List Tok) (n : Str) (h : n ∈ varNames ts) : n.all isWordChar = true := by
  simp only [varNames, List.mem_filterMap] at h
  obtain ⟨t, _, ht⟩ := h
  cases t with
  | word s => cases ht
  | braced s =>
    simp only [Tok.varName] at ht
    split at ht
    · cases ht; assumption
    · cases ht

theorem tokensOk_mono (P Q : Char → Bool) (hPQ : ∀ c, P c = true → Q c = true) (ts : List Tok)
    (h : tokensOk P ts = true) : tokensOk Q ts = true := by
  simp only [tokensOk, List.all_eq_true, Bool.or_eq_true] at h ⊢
  intro t ht
  rcases h t ht with hv | hp
  · exact Or.inl hv
  · exact Or.inr (fun c hc => hPQ c (hp c hc))

theorem dot_plain : plainChar '.' = true := by decide

theorem plain_safe (l : Lang) (hv : Bool) (c : Char) (h : plainChar c = true) : safeChar l hv c = true := by
  -- `h` becomes the conjunction of `(c == x) = false` over the characters `plainChar` excludes
  simp only [plainChar, Bool.not_eq_true', Bool.or_eq_false_iff] at h
  unfold safeChar hazard
  split <;> simp only [h, Bool.and_false, Bool.or_false, Bool.not_false]

theorem safe_dot (l : Lang) (hv : Bool) : safeChar l hv '.' = true := plain_safe l hv '.' dot_plain

theorem safe_dq (l : Lang) (hl : l = .go ∨ l = .java) (hv : Bool) (c : Char) (h : safeChar l hv c = true) :
    hzDQ c = false ∧ (hv = true → c ≠ '%') := by
  have h' : (!(hzDQ c || (hv && c == '%'))) = true := by rcases hl with rfl | rfl <;> exact h
  simpa only [Bool.not_eq_true', Bool.or_eq_false_iff, Bool.and_eq_false_imp, beq_eq_false_iff_ne] using h'

theorem safe_sq (l : Lang) (hl : l.isPython = true) (hv : Bool) (c : Char) (h : safeChar l hv c = true) :
    hzSQ c = false ∧ (hv = true → c ≠ '{' ∧ c ≠ '}') := by
  have h' : (!(hzSQ c || (hv && (c == '{' || c == '}')))) = true := by
    cases l <;> cases hl <;> exact h
  simpa only [Bool.not_eq_true', Bool.or_eq_false_iff, Bool.and_eq_false_imp, beq_eq_false_iff_ne] using h'

theorem safe_dart (hv : Bool) (c : Char) (h : safeChar .dart hv c = true) :
    hzSQ c = false ∧ c ≠ '$' ∧ (hv = true → c ≠ '%') := by
  have h' : (!(hzSQ c || c == '$' || (hv && c == '%'))) = true := h
  simpa only [Bool.not_eq_true', Bool.or_eq_false_iff, Bool.and_eq_false_imp, beq_eq_false_iff_ne, and_assoc] using h'

theorem prefixString_ne_nil (t : Tok) (ts : List Tok) (h : t.wf = true) : prefixString (t :: ts) ≠ [] := by
  simp only [Tok.wf, Bool.and_eq_true] at h
  cases t with
  | word s =>
    cases s with
    | nil => simp [Tok.inner] at h
    | cons c s => simp [prefixString, Tok.text]
  | braced s => simp [prefixString, Tok.text]

/-- The hypotheses under which language `l` reads the pasted prefix as text and variables:
grammar-conformant tokens, static tokens outside the EXACT class of the finding
prefix-token-format-chars for `l` (`safeTokens`), a plain delimiter. -/
structure SafeScope (l : Lang) (sc : Scope) (delim : Str) : Prop where
  wf : ∀ t ∈ sc.pfx, t.wf = true
  safe : safeTokens l sc = true
  pdelim : plainStr delim = true

/-- The stronger, language-independent hypothesis: no format / quoting character at all. -/
structure PlainScope (sc : Scope) (delim : Str) : Prop where
  wf : ∀ t ∈ sc.pfx, t.wf = true
  plain : plainTokens sc.pfx = true
  pdelim : plainStr delim = true

/-- What the prefix expression of every generator should evaluate to (the first summand of `specWith`): the
prefix with the values in place of its variables, then the delimiter; nothing without a prefix. -/
def prefixVal (sc : Scope) (vals : List Str) (delim : Str) : Str :=
  if sc.pfx = [] then [] else substPrefix vals sc.pfx ++ delim

/-- What the generators' prefix functions branch on, in terms of the tokens: no prefix, no variables (the
prefix string is pasted as it is), or variables (`templateStr` puts the placeholder for each). -/
structure SafeScope.Split (l : Lang) (sc : Scope) (delim : Str) : Prop where
  vars : sc.vars = varNames sc.pfx
  nil : sc.pfx = [] → sc.pfxStr = []
  ne : sc.pfx ≠ [] → sc.pfxStr ≠ []
  asIs : sc.vars = [] → sc.pfxStr = substPrefix [] sc.pfx
  templ : ∀ repl, templateStr repl sc.pfxStr = substPrefix (List.replicate sc.vars.length repl) sc.pfx
  toks : tokensOk (safeChar l (!sc.vars.isEmpty)) sc.pfx = true
  delim : ∀ hv, delim.all (safeChar l hv) = true

theorem SafeScope.split {l : Lang} {sc : Scope} {delim : Str} (h : SafeScope l sc delim) :
    SafeScope.Split l sc delim := by
  have hv : sc.vars = varNames sc.pfx := scanVars_prefixString sc.pfx h.wf
  refine ⟨hv, fun hp => by simp [Scope.pfxStr, hp, prefixString], fun hp => ?_, fun h0 => ?_, fun repl => ?_,
    h.safe, fun hv => List.all_eq_true.2 fun c hc => plain_safe l hv c (List.all_eq_true.1 h.pdelim c hc)⟩
  · cases hs : sc.pfx with
    | nil => exact absurd hs hp
    | cons t ts => rw [Scope.pfxStr, hs]; exact prefixString_ne_nil t ts (h.wf t (by simp [hs]))
  · exact (novars_prefix [] sc.pfx (novars_all sc.pfx (hv ▸ h0))).symm
  · rw [Scope.pfxStr, templateStr_prefixString repl sc.pfx h.wf,
      render_eq repl _ sc.pfx (Nat.le_of_eq (congrArg List.length hv.symm))]

/-- golang / java / python `generatePrefixStringTemplate`: a plain literal without variables, a format
string with them. -/
theorem fmt_eval {l : Lang} {sc : Scope} {delim : Str} (h : SafeScope l sc delim) (e : Env)
    (lit fmt : Str → Nat → Template) (repl : Str)
    (hlit : Reads lit (safeChar l false) [] (fun _ => True))
    (hfmt : Reads fmt (safeChar l true) (List.replicate sc.vars.length repl) (fun _ => True)) :
    eval e (if sc.vars = [] then (if sc.pfxStr = [] then [] else lit (sc.pfxStr ++ delim) 0)
      else fmt (templateStr repl sc.pfxStr ++ delim) 0) = some (prefixVal sc e.vals delim) := by
  have s := h.split
  have hts := s.toks
  unfold prefixVal
  by_cases hp : sc.pfx = []
  · simp [hp, s.nil hp, s.vars, varNames, eval]
  · rw [if_neg hp, if_neg (s.ne hp)]
    by_cases hvs : sc.vars = []
    · rw [if_pos hvs, s.asIs hvs]
      rw [hvs] at hts
      exact hlit.pfx e _ delim hp hts (s.delim _) (by simp [← s.vars, hvs]) (fun _ => trivial)
    · rw [if_neg hvs, s.templ]
      have : sc.vars.isEmpty = false := by simpa using hvs
      rw [this] at hts
      exact hfmt.pfx e _ delim hp hts (s.delim _) (by simp [s.vars]) (fun _ => trivial)

theorem okFollow_delim (delim : Str) (hd : plainStr delim = true) (hs : identStart delim = false) :
    OkFollow delim := by
  intro c F' hF
  subst hF
  simp only [plainStr, List.all_cons, Bool.and_eq_true] at hd
  have := safe_dart false c (plain_safe .dart false c hd.1)
  exact ⟨by simpa [identStart] using hs, this.2.1, this.1⟩

theorem identOk_ne_nil (n : Str) (h : identOk n = true) : n ≠ [] := by
  intro e; subst e; simp [identOk] at h

/-- dartlang: the source text is made by a Sprintf at generation time (`$name` for every variable), then
read by Dart's interpolation. -/
theorem prefixDart_eval (e : Env) (sc : Scope) (delim : Str) (h : SafeScope .dart sc delim)
    (hnd : sc.vars.Nodup) (hid : sc.vars.all identOk = true) (hsafe : dartSafe sc.pfx delim = true) :
    eval e (prefixDart sc.pfxStr delim sc.vars) = some (prefixVal sc e.vals delim) := by
  have s := h.split
  have hts := s.toks
  have hw : ∀ n ∈ sc.vars, n ≠ [] ∧ n.all isWordChar = true := fun n hn =>
    ⟨identOk_ne_nil n (List.all_eq_true.1 hid n hn), varNames_word sc.pfx n (s.vars ▸ hn)⟩
  have hP := fun b c hc => (safe_dart b c hc)
  unfold prefixDart dartSrc prefixVal
  by_cases hp : sc.pfx = []
  · simp [hp, s.nil hp, dolAux, eval]
  · rw [if_neg hp, if_neg (s.ne hp), s.templ]
    by_cases hvs : sc.vars = []
    · rw [if_pos hvs]
      rw [hvs] at hts ⊢
      exact (reads_dol [] _ (fun c hc => ⟨(hP false c hc).2.1, (hP false c hc).1⟩) (safe_dot .dart false) .nil
        nofun).novar.pfx e sc.pfx delim hp hts (s.delim _) (by simp [← s.vars, hvs]) (fun _ => trivial)
    · have hemp : sc.vars.isEmpty = false := by simpa using hvs
      rw [hemp] at hts
      have hsrc := (reads_pct hzNone _ (fun c hc => ⟨(hP true c hc).2.2 rfl, rfl⟩) (safe_dot .dart _)
        sc.vars.length).pfx ⟨sc.vars.map (fun v => '$' :: v), [], [], []⟩ sc.pfx delim hp hts (s.delim _) (by simp [s.vars])
        (fun _ => trivial)
      simp only [if_neg hvs, hsrc]
      exact (reads_dol sc.vars _ (fun c hc => ⟨(hP true c hc).2.1, (hP true c hc).1⟩) (safe_dot .dart true) hnd
        hw).pfx e sc.pfx delim hp hts (s.delim _) (by simp [s.vars])
        (fun hl => okFollow_delim delim h.pdelim (by simpa [dartSafe, hl] using hsafe))

/-- The prefix expression of every generator evaluates to the substituted prefix followed by the
delimiter (nothing without a prefix). The Dart side conditions are the finding
dart-variable-glued-to-delimiter and what the parser guarantees of the variable names. -/
theorem prefixTmpl_eval (l : Lang) (e : Env) (sc : Scope) (delim : Str) (h : SafeScope l sc delim)
    (hd : l = .dart → dartSafe sc.pfx delim = true ∧ sc.vars.Nodup ∧ sc.vars.all identOk = true) :
    eval e (prefixTmpl l sc delim) = some (prefixVal sc e.vals delim) := by
  have dq : ∀ l, l = .go ∨ l = .java → SafeScope l sc delim →
      eval e (prefixPct sc.pfxStr delim sc.vars) = some (prefixVal sc e.vals delim) := fun l hl h =>
    fmt_eval h e (fun s _ => litq hzDQ s) (pct hzDQ) ['%', 's']
      (reads_litq hzDQ _ (fun c hc => (safe_dq l hl false c hc).1) (safe_dot l _))
      (reads_pct hzDQ _ (fun c hc => ⟨(safe_dq l hl true c hc).2 rfl, (safe_dq l hl true c hc).1⟩) (safe_dot l _) _)
  have sq : ∀ l, l.isPython = true → SafeScope l sc delim →
      eval e (prefixPy sc.pfxStr delim sc.vars) = some (prefixVal sc e.vals delim) := fun l hl h =>
    fmt_eval h e (fun s _ => litq hzSQ s) (br hzSQ) ['{', '}']
      (reads_litq hzSQ _ (fun c hc => (safe_sq l hl false c hc).1) (safe_dot l _))
      (reads_br hzSQ _ (fun c hc => ⟨((safe_sq l hl true c hc).2 rfl).1, ((safe_sq l hl true c hc).2 rfl).2,
        (safe_sq l hl true c hc).1⟩) (safe_dot l _) _)
  cases l with
  | go => exact dq _ (.inl rfl) h
  | java => exact dq _ (.inr rfl) h
  | dart => exact prefixDart_eval e sc delim h (hd rfl).2.1 (hd rfl).2.2 (hd rfl).1
  | py => exact sq _ rfl h
  | pyAsyncio => exact sq _ rfl h
  | pyTornado => exact sq _ rfl h

/-- Publisher and subscriber of one language build the topic by the same line. -/
theorem subTopic_eq (l : Lang) (delim : Str) : subTopic l delim = pubTopic l delim := by cases l <;> rfl

theorem lookupVal_cons_self (v a : Str) (env : List (Str × Str)) : lookupVal ((v, a) :: env) v = a := by
  simp [lookupVal, List.lookup]

theorem lookupVal_cons_ne (v a n : Str) (env : List (Str × Str)) (h : n ≠ v) :
    lookupVal ((v, a) :: env) n = lookupVal env n := by
  have : (n == v) = false := by simpa using h
  simp [lookupVal, List.lookup, this]

/-- Binding the i-th value to the i-th (distinct) name and reading the names back in order
returns the values: a call is the identity on the argument list. -/
theorem map_lookup_zip (vars vals : List Str) (hnd : vars.Nodup) (hl : vals.length = vars.length) :
    vars.map (lookupVal (vars.zip vals)) = vals := by
  induction vars generalizing vals with
  | nil => cases vals with
    | nil => rfl
    | cons a as => simp at hl
  | cons v vs ih =>
    cases vals with
    | nil => simp at hl
    | cons a as =>
      rw [List.nodup_cons] at hnd
      simp only [List.length_cons, Nat.add_right_cancel_iff] at hl
      simp only [List.zip_cons_cons, List.map_cons, lookupVal_cons_self]
      congr 1
      have : vs.map (lookupVal ((v, a) :: vs.zip as)) = vs.map (lookupVal (vs.zip as)) := by
        apply List.map_congr_left
        intro n hn
        exact lookupVal_cons_ne v a n _ (fun e => hnd.1 (e ▸ hn))
      rw [this, ih as hnd.2 hl]

theorem runChain_identity (l : Lang) (e : Entry) (vars args : List Str) (hnd : vars.Nodup)
    (hl : args.length = vars.length) : runChain (chain l e vars) args = args := by
  cases l <;> cases e <;> simp [chain, runChain, map_lookup_zip vars args hnd hl]

theorem reachVals_identity (l : Lang) (e : Entry) (vars args : List Str) (hnd : vars.Nodup)
    (hl : args.length = vars.length) : reachVals l e vars args = args := by
  unfold reachVals
  rw [runChain_identity l e vars args hnd hl, map_lookup_zip vars args hnd hl]

theorem lookup_zip_getElem (vars vals : List Str) (hnd : vars.Nodup) (hl : vals.length = vars.length)
    (i : Nat) (hi : i < vars.length) :
    lookupVal (vars.zip vals) vars[i] = vals[i]'(hl ▸ hi) := by
  have h := map_lookup_zip vars vals hnd hl
  have := congrArg (fun l => l[i]?) h
  simp only [List.getElem?_map, List.getElem?_eq_getElem hi, Option.map_some] at this
  rw [List.getElem?_eq_getElem (hl ▸ hi)] at this
  exact Option.some.inj this

/-- Why the harness uses pairwise different values: if a forwarding call passes the names in ANY
other order / with a name repeated or replaced (a list `fwd` of declared names, of the right
length, different from the declaration order), the callee receives a different value list. -/
theorem forwarding_detected (vars vals fwd : List Str) (hnd : vars.Nodup) (hv : vals.Nodup)
    (hl : vals.length = vars.length) (hf : fwd.length = vars.length) (hmem : ∀ n ∈ fwd, n ∈ vars)
    (heq : fwd.map (lookupVal (vars.zip vals)) = vals) : fwd = vars := by
  apply List.ext_getElem hf
  intro i h1 h2
  have hi : i < vals.length := hl ▸ h2
  obtain ⟨j, hj, hji⟩ := List.getElem_of_mem (hmem fwd[i] (List.getElem_mem h1))
  have e1 : (fwd.map (lookupVal (vars.zip vals)))[i]'(by simpa using h1) = vals[i] := by
    simp only [heq]
  simp only [List.getElem_map] at e1
  rw [← hji, lookup_zip_getElem vars vals hnd hl j hj] at e1
  have : j = i := (List.getElem_inj hv).1 e1
  subst this
  exact hji.symm

end FV.Topic
