/- Throughout, 4294967296 = 2^32 (a `uint32` field) and 2147483648 = 2^31 (the range of Go's `int32`). -/
import FV.Basic

namespace FV

theorem be32_length (n : Nat) : (be32 n).length = 4 := rfl

/-- Two adjacent digits of `n`, of bases `b` and `c`, make up `n` modulo `b * c`. -/
theorem digit_step (n b c : Nat) : n / b % c * b + n % b = n % (b * c) := by
  rw [Nat.mod_mul, Nat.mul_comm, Nat.add_comm]

theorem rd32_be32 (n : Nat) (r : Bytes) (h : n < 4294967296) : rd32 (be32 n ++ r) = n := by
  simp only [be32, rd32, List.cons_append, List.nil_append, UInt8.toNat_ofNat', Nat.reducePow, Nat.mod_mod]
  -- the four digits are folded from the least significant end (rather than `omega` over the four div/mod atoms)
  rw [Nat.add_assoc, Nat.add_assoc, digit_step n 256 256, digit_step n 65536 256, digit_step n 16777216 256]
  exact Nat.mod_eq_of_lt h

theorem rd32_append (a b : Bytes) (h : 4 ≤ a.length) : rd32 (a ++ b) = rd32 a := by
  match a, h with
  | _ :: _ :: _ :: _ :: _, _ => rfl

theorem rd32_take4 (b : Bytes) (h : 4 ≤ b.length) : rd32 (b.take 4) = rd32 b := by
  have := rd32_append (b.take 4) (b.drop 4) (by rw [List.length_take]; omega)
  rw [List.take_append_drop] at this
  exact this.symm

theorem rd32_lt (b : Bytes) : rd32 b < 4294967296 := by
  unfold rd32
  split
  · rename_i a b c d _
    have := a.toNat_lt; have := b.toNat_lt; have := c.toNat_lt; have := d.toNat_lt
    omega
  · omega

theorem toI32_small (n : Nat) (h : n < 2147483648) : toI32 n = n := by
  unfold toI32
  rw [Nat.mod_eq_of_lt (by omega), if_pos h]

theorem toI32_rd32_be32 (n : Nat) (r : Bytes) (h : n < 2147483648) : toI32 (rd32 (be32 n ++ r)) = n := by
  rw [rd32_be32 _ _ (by omega), toI32_small _ h]

theorem toI32_range (n : Nat) : -2147483648 ≤ toI32 n ∧ toI32 n < 2147483648 := by
  unfold toI32
  have := Nat.mod_lt n (show 0 < 4294967296 by omega)
  generalize n % 4294967296 = m at *
  split <;> omega

theorem toI32_nonneg_eq (n : Nat) (hn : n < 4294967296) (h : 0 ≤ toI32 n) : toI32 n = n := by
  unfold toI32 at *
  rw [Nat.mod_eq_of_lt hn] at h ⊢
  by_cases hlt : n < 2147483648
  · exact if_pos hlt
  · rw [if_neg hlt] at h; omega

theorem slice_ok (b : Bytes) (i j : Int) (h0 : 0 ≤ i) (h1 : i ≤ j) (h2 : j ≤ b.length) :
    slice b i j = .ok ((b.drop i.toNat).take (j - i).toNat) :=
  if_pos ⟨h0, h1, h2⟩

theorem slice_panic_elim {b : Bytes} {i j : Int} {p : Panic} (h : slice b i j = .panic p) :
    ¬(0 ≤ i ∧ i ≤ j ∧ j ≤ b.length) := by
  intro hc
  rw [slice, if_pos hc] at h
  cases h

theorem slice_not_panic (b : Bytes) (i j : Int) (h0 : 0 ≤ i) (h1 : i ≤ j) (h2 : j ≤ b.length) :
    ∃ s, slice b i j = .ok s ∧ (s.length : Int) = j - i := by
  refine ⟨_, slice_ok b i j h0 h1 h2, ?_⟩
  rw [List.length_take_of_le (by rw [List.length_drop]; omega), Int.toNat_of_nonneg (Int.sub_nonneg.mpr h1)]

theorem slice_at (b a m c : Bytes) (i j : Int) (hb : b = a ++ (m ++ c)) (hi : i = a.length)
    (hj : j = i + m.length) : slice b i j = .ok m := by
  subst hb hi hj
  rw [slice_ok _ _ _ (by omega) (by omega) (by simp; omega)]
  have h2 : ((a.length : Int) + m.length - a.length).toNat = m.length := by omega
  rw [Int.toNat_natCast, h2, List.drop_left, List.take_left]

theorem sliceFrom_ok (b : Bytes) (i : Int) (h0 : 0 ≤ i) (h1 : i ≤ b.length) :
    sliceFrom b i = .ok (b.drop i.toNat) :=
  if_pos ⟨h0, h1⟩

/-! ### Results that never panic

The receivers of C05 are decision trees over `Res`. `r.Ensures P` says in one statement what the property asks
of each: no panic, and what a returned value satisfies. A tree is walked once, with `ensures_ite` at every `if`
(`split` would re-simplify the whole remaining tree at every branch), which also hands each guard on to the
branch under it. -/

/-- `r` does not panic, and a value it returns satisfies `P`. -/
def Res.Ensures (r : Res α) (P : α → Prop) : Prop :=
  match r with
  | .ok a => P a
  | .err _ => True
  | .panic _ => False

theorem Res.Ensures.ne_panic {r : Res α} {P : α → Prop} (h : r.Ensures P) (p : Panic) : r ≠ .panic p := by
  intro e; rw [e] at h; exact h

theorem Res.Ensures.of_ok {r : Res α} {P : α → Prop} {a : α} (h : r.Ensures P) (e : r = .ok a) : P a := by
  rw [e] at h; exact h

theorem Res.ne_panic_of_ok {r : Res α} (h : ∃ a, r = .ok a) (p : Panic) : r ≠ .panic p := by
  obtain ⟨a, rfl⟩ := h
  nofun

theorem Res.isPanic_false {r : Res α} (h : ∀ p, r ≠ .panic p) : r.isPanic = false := by
  cases r with
  | panic p => exact absurd rfl (h p)
  | _ => rfl

theorem Res.ensures_ite {c : Prop} [Decidable c] {a b : Res α} {P : α → Prop}
    (ha : c → a.Ensures P) (hb : ¬c → b.Ensures P) : (if c then a else b).Ensures P := by
  by_cases h : c
  · rw [if_pos h]; exact ha h
  · rw [if_neg h]; exact hb h

end FV
