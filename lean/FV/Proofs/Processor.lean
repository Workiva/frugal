/-
For C14. The concurrent writers of one output are handled by one invariant (`SysInv`), kept by every step
(`inv_step`, through the inversion `step_some`).
-/
import FV.Model.Processor

namespace FV.Proc

theorem respHdrs_get_opid (h : Hdrs) (o : Bytes) : (respHdrs h o).get? opIdHeader = some o := by
  simp [respHdrs, Hdrs.get?]

/-- A oneway method writes nothing or one EXCEPTION message. -/
theorem methodReply_oneway (ms : MethodSpec) (h : Hdrs) (opid name : Bytes) (ho : HOutcome) (hw : ms.oneway = true) :
    methodReply ms h opid name ho = [] ∨ ∃ t, methodReply ms h opid name ho = [mkException h opid name t] := by
  cases ho with
  | success v => exact .inl (by simp [methodReply, hw])
  | declared f => exact .inr ⟨exInternalError, by simp [methodReply, hw]⟩
  | appEx t => exact .inr ⟨t, rfl⟩
  | other => exact .inr ⟨_, rfl⟩

theorem processConn_head (pm : ProcMap) (r : Request × HOutcome) (t : List (Request × HOutcome)) :
    (processConn pm (r :: t))[0]? = some (process pm r.1 r.2) := by
  simp only [processConn]; split <;> rfl

/-- While every request is consumed exactly and handled without a transport-level error, the
per-connection loop answers request by request. -/
theorem processConn_append (pm : ProcMap) (pre rest : List (Request × HOutcome))
    (hpre : ∀ q ∈ pre, (process pm q.1 q.2).2 = .ok () ∧ positionKept pm q.1 = true) :
    processConn pm (pre ++ rest) = pre.map (fun q => process pm q.1 q.2) ++ processConn pm rest := by
  induction pre with
  | nil => rfl
  | cons q t ih =>
    have hq := hpre q List.mem_cons_self
    simp only [List.cons_append, processConn, hq.1, hq.2, Res.isOk, Bool.and_self, if_true, List.map_cons]
    rw [ih fun x hx => hpre x (List.mem_cons_of_mem _ hx)]

theorem serveAll_length (ex : Exits) (pm : ProcMap) : ∀ (rs : List MuReq) (locked : Bool),
    (serveAll ex pm locked rs).length = rs.length
  | [], _ => rfl
  | r :: t, locked => by rw [serveAll, List.length_cons, serveAll_length ex pm t, List.length_cons]

/-- What the invariant says of one goroutine `g` in state `x`. -/
structure GOk (n : Nat) (fin : List Nat) (holder : Option Nat) (g : Nat) (x : GState) : Prop where
  lt_n : x ≠ .idle → g < n
  fin_done : g ∈ fin ↔ x = .done
  holder : ∀ w, x = .holding w → holder = some g

/-- Invariant of the concurrent-writers system started as `Sys.init n reply`. `out_eq` is the
statement of interest; the rest is what makes it inductive. -/
structure SysInv (n : Nat) (reply : Nat → List Bytes) (s : Sys) : Prop where
  n_eq : s.n = n
  reply_eq : s.reply = reply
  out_eq : s.out = (s.fin.map fun g => (reply g).flatten).flatten ++ s.partialOut
  holder_holding : ∀ g, s.holder = some g → ∃ w, s.st g = .holding w ∧ w ≤ (reply g).length
  each : ∀ g, GOk n s.fin s.holder g (s.st g)
  fin_nodup : s.fin.Nodup

/-- The three ways a step can be enabled, and what it does. -/
theorem step_some {s s' : Sys} {a : Action} (h : step s a = some s') :
    (∃ g, g < s.n ∧ s.holder = none ∧ s.st g = .idle ∧
      s' = { s with holder := some g, st := upd s.st g (.holding 0) }) ∨
    (∃ g w c, s.holder = some g ∧ s.st g = .holding w ∧ (s.reply g)[w]? = some c ∧
      s' = { s with out := s.out ++ c, st := upd s.st g (.holding (w + 1)) }) ∨
    (∃ g, s.holder = some g ∧ s.st g = .holding (s.reply g).length ∧
      s' = { s with holder := none, st := upd s.st g .done, fin := s.fin ++ [g] }) := by
  cases a with
  | lock g =>
    simp only [step] at h
    split at h <;> cases h
    next hc => exact .inl ⟨g, hc.1, hc.2.1, hc.2.2, rfl⟩
  | writeChunk g =>
    simp only [step] at h
    split at h  -- does `g` hold the mutex?
    · split at h  -- is it in state `holding w`?
      · split at h <;> cases h  -- is there a chunk `w` of its reply?
        exact .inr (.inl ⟨g, _, _, ‹_›, ‹_›, ‹_›, rfl⟩)
      · cases h
    · cases h
  | unlock g =>
    simp only [step] at h
    split at h <;> cases h
    next hc => exact .inr (.inr ⟨g, hc.1, hc.2, rfl⟩)

theorem upd_same (f : Nat → GState) (g : Nat) (v : GState) : upd f g v g = v := if_pos rfl

theorem upd_other (f : Nat → GState) {g i : Nat} (v : GState) (h : i ≠ g) : upd f g v i = f i := if_neg h

theorem inv_init (n : Nat) (reply : Nat → List Bytes) : SysInv n reply (Sys.init n reply) := by
  refine ⟨rfl, rfl, ?_, ?_, fun g => ⟨?_, ?_, ?_⟩, ?_⟩ <;> simp [Sys.init, Sys.partialOut]

theorem inv_step {n : Nat} {reply : Nat → List Bytes} {s s' : Sys} {a : Action} (hi : SysInv n reply s)
    (h : step s a = some s') : SysInv n reply s' := by
  obtain ⟨rfl, rfl, hout, hhg, hea, hnd⟩ := hi
  rcases step_some h with ⟨g, hg, hh, hst, rfl⟩ | ⟨g, w, c, hh, hst, hc, rfl⟩ | ⟨g, hh, hst, rfl⟩
  · -- lock: `g` was idle and becomes the holder, with nothing written
    refine ⟨rfl, rfl, ?_, ?_, fun i => ?_, hnd⟩
    · simpa [Sys.partialOut, hh, upd] using hout
    · rintro g' ⟨⟩; exact ⟨0, upd_same .., Nat.zero_le _⟩
    · by_cases e : i = g
      · simp only [e, upd_same]
        exact ⟨fun _ => hg, by simpa [hst] using (hea g).fin_done, fun _ _ => rfl⟩
      · simp only [upd_other _ _ e]
        exact ⟨(hea i).lt_n, (hea i).fin_done, fun w hw => by have := (hea i).holder w hw; rw [hh] at this; cases this⟩
  · -- writeChunk: the holder appends chunk `w` of its reply
    have hw : w < (s.reply g).length := (List.getElem?_eq_some_iff.1 hc).1
    refine ⟨rfl, rfl, ?_, ?_, fun i => ?_, hnd⟩
    · simp [Sys.partialOut, hh, upd, List.take_add_one, hc, hout, hst]
    · intro g' hg'
      rw [show s.holder = some g' from hg'] at hh; cases hh
      exact ⟨w + 1, upd_same .., hw⟩
    · by_cases e : i = g
      · simp only [e, upd_same]
        exact ⟨fun _ => (hea g).lt_n (by rw [hst]; nofun), by simpa [hst] using (hea g).fin_done, fun _ _ => hh⟩
      · simp only [upd_other _ _ e]; exact hea i
  · -- unlock: the holder has written its whole reply and joins `fin`
    have hgf : g ∉ s.fin := fun hm => by have := (hea g).fin_done.1 hm; rw [hst] at this; cases this
    refine ⟨rfl, rfl, ?_, ?_, fun i => ?_, ?_⟩
    · simp [Sys.partialOut, hout, hh, hst]
    · rintro g' ⟨⟩
    · by_cases e : i = g
      · simp only [e, upd_same]
        exact ⟨fun _ => (hea g).lt_n (by rw [hst]; nofun), by simp, nofun⟩
      · simp only [upd_other _ _ e]
        exact ⟨(hea i).lt_n, by simp [e, (hea i).fin_done], fun w hw => by
          have := (hea i).holder w hw; rw [hh] at this; cases this; exact absurd rfl e⟩
    · exact List.nodup_append.2 ⟨hnd, by simp, fun a ha b hb e => hgf (List.mem_singleton.1 hb ▸ e ▸ ha)⟩
theorem inv_run {n : Nat} {reply : Nat → List Bytes} {acts : List Action} {s0 s : Sys}
    (hi : SysInv n reply s0) (h : run s0 acts = some s) : SysInv n reply s := by
  induction acts generalizing s0 with
  | nil => cases h; exact hi
  | cons a t ih =>
    simp only [run] at h
    split at h
    · exact ih (inv_step hi ‹_›) h
    · cases h

end FV.Proc
