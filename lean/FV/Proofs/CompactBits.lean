/- The Go bit operations of the compact protocol's zigzag and varint code, on BitVec 32 / Nat bit operators,
agree with the arithmetic definitions used by the model (FV.Model.CompactProtocol: zigzag, uvarint). -/
import FV.Model.CompactProtocol
namespace FV.Thrift

theorem varint_bitops (n : Nat) :
    n &&& 127 = n % 128 ∧ (n &&& 127) ||| 128 = n % 128 + 128 ∧ n >>> 7 = n / 128 := by
  have h1 : n &&& 127 = n % 128 := Nat.and_two_pow_sub_one_eq_mod n 7
  refine ⟨h1, ?_, ?_⟩
  · rw [h1]
    have := Nat.two_pow_add_eq_or_of_lt (i := 7) (b := n % 128) (by omega)
    simp only [Nat.reducePow] at this
    have h2 := this 1
    rw [Nat.mul_one] at h2
    rw [Nat.or_comm, ← h2]; omega
  · exact Nat.shiftRight_eq_div_pow n 7

/-- `(n << 1) ^ (n >> 31)` on int32 -/
def zigzag32bv (x : BitVec 32) : BitVec 32 := (x <<< 1) ^^^ (x.sshiftRight 31)

/-- On the bits: doubled when the sign bit is clear (the arithmetic shift gives 0), doubled and complemented
when it is set (the shift gives all ones). -/
theorem zigzag32bv_toNat (x : BitVec 32) :
    (zigzag32bv x).toNat = if x.toNat < 2147483648 then 2 * x.toNat else 8589934591 - 2 * x.toNat := by
  have hlt := x.isLt
  unfold zigzag32bv
  split
  · rename_i h
    have hmsb : x.msb = false := by rw [BitVec.msb_eq_decide]; exact decide_eq_false (Nat.not_le.mpr h)
    rw [BitVec.toNat_xor, BitVec.toNat_sshiftRight_of_msb_false hmsb, Nat.shiftRight_eq_div_pow,
      Nat.div_eq_of_lt h, Nat.xor_zero, BitVec.toNat_shiftLeft, Nat.shiftLeft_eq, Nat.mod_eq_of_lt (by omega)]
    omega
  · rename_i h
    have hmsb : x.msb = true := by rw [BitVec.msb_eq_decide]; exact decide_eq_true (Nat.not_lt.mp h)
    have hs : x.sshiftRight 31 = BitVec.allOnes 32 := by
      apply BitVec.eq_of_toNat_eq
      rw [BitVec.toNat_sshiftRight_of_msb_true hmsb, Nat.shiftRight_eq_div_pow, Nat.div_eq_of_lt (by omega)]
      rfl
    rw [hs, BitVec.xor_allOnes, BitVec.toNat_not, BitVec.toNat_shiftLeft, Nat.shiftLeft_eq]
    omega

theorem zigzag32bv_eq (z : Int) (h : -2147483648 ≤ z ∧ z < 2147483648) :
    (zigzag32bv (BitVec.ofInt 32 z)).toNat = zigzag z := by
  rw [zigzag32bv_toNat, BitVec.toNat_ofInt]
  unfold zigzag
  -- the bits of `z` as a number: `z` itself, or `z + 2^32` when negative
  by_cases hz : 0 ≤ z
  · rw [Int.emod_eq_of_lt hz (by omega), if_pos hz, if_pos (by omega)]; omega
  · rw [← Int.add_emod_right, Int.emod_eq_of_lt (by omega) (by omega), if_neg hz, if_neg (by omega)]; omega
end FV.Thrift
