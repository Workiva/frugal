/-
For C07. What a worker logs is `filterMap deliver` of what it took, as long as nothing panics (`recvAll_log`); over any
schedule the log, followed by what is still owed for the queue, is a sub-list of what the queue and the broker owed
(`run_log`); go-stomp's hand-over keeps `Stomp.Good` and decreases `Stomp.mu`.
-/
import FV.Model.PubSub
import FV.Proofs.Headers
import FV.Proofs.Thrift

namespace FV.PubSub
open FV FV.Thrift

/-- Hypotheses on a publisher's header map (a Go map: distinct names), carrying an op id. -/
structure HdrsOK (h : Hdrs) : Prop where
  nodup : h.keys.Nodup
  small : FV.C04.Small h
  opid : (h.get? opIdHeader).isSome = true

theorem callback_ok (c : SubCfg) (wire rest : Bytes) (h : Hdrs) (es r : List Event) (v : Val)
    (hu : unmarshalStream wire = .ok (h, rest)) (ho : (h.get? opIdHeader).isNone = false)
    (hd : decV c.d c.fuel c.ty es = .ok (v, r)) :
    callback c wire (.msg c.op es) = .delivered ⟨h, v⟩ := by
  unfold callback
  rw [hu]
  simp only [ho, hd]
  simp

/-- What the publisher wrote is delivered as it was published: headers through the C04 round trip, payload
through `FV.Thrift.roundtrip`. -/
theorem handle_published (c : SubCfg) (sz : Nat) (h : Hdrs) (v : Val) (p : Packet)
    (hh : HdrsOK h) (hwt : WT c.d c.fuel c.ty v) (hp : publishPkt c sz h v = .ok p) :
    handle c p = .delivered ⟨h, v⟩ := by
  obtain ⟨es, henc⟩ := enc_total c.d c.fuel c.ty v hwt
  rw [publishPkt, henc] at hp
  cases hp
  have hu := unmarshalStream_marshal h [] hh.small
  rw [Hdrs.setAll_nil h hh.nodup] at hu
  have hd := roundtrip c.d c.fuel c.ty v es [] hwt henc
  rw [List.append_nil] at hu hd
  have ho : (h.get? opIdHeader).isNone = false := by
    rw [← Option.not_isSome, hh.opid]; rfl
  rw [handle, if_neg (by simp only [List.length_append, be32_length]; omega), List.drop_left' (be32_length _)]
  exact callback_ok c (marshal h) [] h es [] v hu ho hd

theorem publishPkt_total (c : SubCfg) (sz : Nat) (h : Hdrs) (v : Val) (hwt : WT c.d c.fuel c.ty v) :
    ∃ p, publishPkt c sz h v = .ok p := by
  obtain ⟨es, he⟩ := enc_total c.d c.fuel c.ty v hwt
  exact ⟨_, by unfold publishPkt; rw [he]⟩

theorem deliver_none_of_not_delivered (c : SubCfg) (p : Packet) :
    (∀ dl, handle c p ≠ .delivered dl) → deliver c p = none := by
  intro h
  unfold deliver
  cases hh : handle c p with
  | delivered dl => exact absurd hh (h dl)
  | discarded => rfl
  | failed e => rfl
  | crashed q => rfl

theorem deliver_some (c : SubCfg) (p : Packet) (dl : Delivery) (h : handle c p = .delivered dl) :
    deliver c p = some dl := by
  unfold deliver; rw [h]; rfl

/-- The log grows by exactly the message's delivery, whatever the message, while no panic happens. -/
theorem recv_log (c : SubCfg) (w : WState) (p : Packet) (ha : w.alive = true)
    (hc : (handle c p).isCrash = false) :
    (w.recv c p).alive = true ∧ (w.recv c p).log = w.log ++ (deliver c p).toList := by
  unfold WState.recv deliver
  simp only [ha, Bool.not_true]
  cases hh : handle c p with
  | crashed q => rw [hh] at hc; cases hc
  | _ => simp [Outcome.delivery?, ha]

theorem filterMap_cons_toList {α β : Type} (f : α → Option β) (x : α) (l : List α) :
    (x :: l).filterMap f = (f x).toList ++ l.filterMap f := by
  cases h : f x <;> simp [h]

theorem filterMap_eq_flatMap_toList {α β : Type} (f : α → Option β) (l : List α) :
    l.filterMap f = l.flatMap (fun x => (f x).toList) := by
  induction l with
  | nil => rfl
  | cons x t ih => rw [List.flatMap_cons, ← ih, filterMap_cons_toList]

theorem recvAll_log (c : SubCfg) (ps : List Packet) : ∀ (w : WState), w.alive = true →
    (∀ p ∈ ps, (handle c p).isCrash = false) →
    (w.recvAll c ps).alive = true ∧ (w.recvAll c ps).log = w.log ++ ps.filterMap (deliver c) := by
  induction ps with
  | nil => intro w ha _; simp [WState.recvAll, ha]
  | cons p t ih =>
    intro w ha hc
    have h1 := recv_log c w p ha (hc p (List.mem_cons_self))
    have h2 := ih (w.recv c p) h1.1 (fun q hq => hc q (List.mem_cons_of_mem _ hq))
    simp only [WState.recvAll, List.foldl_cons] at h2 ⊢
    refine ⟨h2.1, ?_⟩
    rw [h2.2, h1.2, filterMap_cons_toList, List.append_assoc]

/-- Only the length check in front of the callback discards: every exit of the callback is a
delivery, an error or a panic. -/
theorem callback_ne_discarded (c : SubCfg) (body : Bytes) (tail : Tail) : callback c body tail ≠ .discarded := by
  unfold callback
  repeat' split
  all_goals nofun

/-- Callback invocations are what the C05 worker model counts. -/
theorem recv_cbs (c : SubCfg) (w : WState) (k : Worker) (p : Packet) (ha : w.alive = true) (hk : k.alive = true)
    (hc : (handle c p).isCrash = false) (he : w.cbs = k.delivered) :
    (w.recv c p).cbs = (k.recv p.data).delivered := by
  unfold WState.recv Worker.recv handle at *
  simp only [ha, hk, Bool.not_true, Bool.false_eq_true, if_false]
  by_cases hl : p.data.length < 4
  · simp only [hl, if_true]; exact he
  · simp only [hl, if_false] at hc ⊢
    cases hh : callback c (List.drop 4 p.data) p.tail with
    | discarded => exact absurd hh (callback_ne_discarded _ _ _)
    | crashed q => rw [hh] at hc; cases hc
    | _ => exact congrArg (· + 1) he

theorem merge_perm {α : Type} (ls : List (List α)) (out : List α) (h : Merge ls out) : out.Perm ls.flatten := by
  induction h with
  | done ls h => rw [List.flatten_eq_nil_iff.2 h]
  | take pre x t post out _ ih =>
    simp only [List.flatten_append, List.flatten_cons, List.cons_append] at ih ⊢
    exact (List.Perm.cons x ih).trans (List.perm_middle.symm)

theorem filterMap_singleton_toList {α β : Type} (f : α → Option β) (p : α) : [p].filterMap f = (f p).toList := by
  rw [filterMap_cons_toList, List.filterMap_nil, List.append_nil]

theorem brokerDeliver_append (topic : Topic) (a b : List Published) :
    brokerDeliver topic (a ++ b) = brokerDeliver topic a ++ brokerDeliver topic b := by
  simp [brokerDeliver, List.filter_append]

theorem brokerDeliver_cons (topic : Topic) (m : Published) (l : List Published) :
    brokerDeliver topic (m :: l) = if m.topic = topic then m.pkt :: brokerDeliver topic l else brokerDeliver topic l := by
  by_cases h : m.topic = topic <;> simp [brokerDeliver, h]

/-- What a worker's step adds to the log, alive or not: at most the message's delivery. -/
theorem recv_log_sublist (c : SubCfg) (w : WState) (p : Packet) :
    ∃ e, (w.recv c p).log = w.log ++ e ∧ e.Sublist (deliver c p).toList := by
  unfold WState.recv deliver
  cases w.alive with
  | false => exact ⟨[], by simp, by simp⟩
  | true =>
    cases handle c p with
    | delivered dl => exact ⟨[dl], rfl, List.Sublist.refl _⟩
    | _ => exact ⟨[], by simp, by simp⟩

/-- The branches of `step`: the ways an action can be enabled, and what it does. -/
theorem step_some {c : SubCfg} {topic : Topic} {s s' : St} {a : Act} (h : step c topic s a = some s') :
    (∃ m, a = .publish m ∧ s.subscribed = true ∧ m.topic = topic ∧
      s' = { s with queue := s.queue ++ [m.pkt], accepted := s.accepted ++ [m.pkt] }) ∨
    (∃ m, a = .publish m ∧ ¬ (s.subscribed = true ∧ m.topic = topic) ∧ s' = s) ∨
    (∃ p q, a = .work ∧ s.queue = p :: q ∧ s' = { s with queue := q, w := s.w.recv c p }) ∨
    (a = .unsubscribe ∧ s' = { s with subscribed := false, quit := true, unsubReturned := true }) ∨
    (a = .abandon ∧ s.quit = true ∧ s' = { s with queue := [] }) := by
  cases a with
  | publish m =>
    simp only [step] at h
    split at h <;> cases h
    · next hc => exact .inl ⟨m, rfl, hc.1, hc.2, rfl⟩
    · next hc => exact .inr (.inl ⟨m, rfl, hc, rfl⟩)
  | work =>
    simp only [step] at h
    split at h <;> cases h
    next p q hq => exact .inr (.inr (.inl ⟨p, q, rfl, hq, rfl⟩))
  | unsubscribe => cases h; exact .inr (.inr (.inr (.inl ⟨rfl, rfl⟩)))
  | abandon =>
    simp only [step] at h
    split at h <;> cases h
    next hq => exact .inr (.inr (.inr (.inr ⟨rfl, hq, rfl⟩)))

theorem run_cons {c : SubCfg} {topic : Topic} {s s' : St} {a : Act} {as : List Act} :
    run c topic s (a :: as) = some s' ↔ ∃ s1, step c topic s a = some s1 ∧ run c topic s1 as = some s' := by
  rw [run]
  cases step c topic s a <;> simp

/-- Any schedule from any state: the log only grows, and what it grows by, together with what is still
owed for the queue, is a sub-list of what was owed for the queue plus what is owed for the publishes on
the topic that precede the first unsubscribe. The ghost history `accepted` plays no part. -/
theorem run_log (c : SubCfg) (topic : Topic) (as : List Act) : ∀ (s s' : St), run c topic s as = some s' →
    ∃ e, s'.w.log = s.w.log ++ e ∧
      (e ++ s'.queue.filterMap (deliver c)).Sublist (s.queue.filterMap (deliver c) ++
        if s.subscribed then (brokerDeliver topic (pubsBeforeUnsub as)).filterMap (deliver c) else []) := by
  induction as with
  | nil => intro s s' h; cases h; exact ⟨[], by simp, by simp⟩
  | cons a t ih =>
    intro s s' h
    obtain ⟨s1, hs, h⟩ := run_cons.mp h
    obtain ⟨e1, hl1, hsub1⟩ := ih s1 s' h
    rcases step_some hs with ⟨m, rfl, hsb, ht, rfl⟩ | ⟨m, rfl, hc, rfl⟩ | ⟨p, q, rfl, hq, rfl⟩ | ⟨rfl, rfl⟩ | ⟨rfl, -, rfl⟩
    · -- a publish that the broker hands over: it is owed at the end of the queue instead of at the head of the rest
      refine ⟨e1, hl1, ?_⟩
      simp only [hsb, if_true, List.filterMap_append, filterMap_singleton_toList, List.append_assoc] at hsub1
      simp only [hsb, if_true, pubsBeforeUnsub, brokerDeliver_cons, ht, filterMap_cons_toList]
      exact hsub1
    · -- a publish that is not handed over: unsubscribed already, or another topic
      refine ⟨e1, hl1, ?_⟩
      cases hsb : s1.subscribed with
      | false => rw [hsb] at hsub1; exact hsub1
      | true =>
        have hne : ¬ m.topic = topic := fun he => hc ⟨hsb, he⟩
        rw [hsb] at hsub1
        simp only [pubsBeforeUnsub, brokerDeliver_cons, hne, if_false]
        exact hsub1
    · -- a worker step: the log grows by at most what was owed for the head of the queue
      obtain ⟨e0, hl0, hsub0⟩ := recv_log_sublist c s.w p
      refine ⟨e0 ++ e1, by rw [hl1, hl0, List.append_assoc], ?_⟩
      rw [hq, filterMap_cons_toList, List.append_assoc, List.append_assoc]
      exact hsub0.append hsub1
    · -- unsubscribe: no later publish is owed
      refine ⟨e1, hl1, ?_⟩
      simp only [Bool.false_eq_true, if_false] at hsub1
      simp only [pubsBeforeUnsub, brokerDeliver, List.filter_nil, List.map_nil, List.filterMap_nil, ite_self]
      exact hsub1
    · -- the queue is dropped
      refine ⟨e1, hl1, ?_⟩
      simp only [List.filterMap_nil, List.nil_append, pubsBeforeUnsub] at hsub1 ⊢
      exact hsub1.trans (List.sublist_append_right _ _)

theorem pubsBeforeUnsub_append_unsub (as bs : List Act) :
    pubsBeforeUnsub (as ++ Act.unsubscribe :: bs) = pubsBeforeUnsub as := by
  induction as with
  | nil => rfl
  | cons a t ih => cases a <;> simp [pubsBeforeUnsub, ih]

theorem run_append (c : SubCfg) (topic : Topic) (as bs : List Act) : ∀ (s : St),
    run c topic s (as ++ bs) = (run c topic s as).bind (fun s1 => run c topic s1 bs) := by
  induction as with
  | nil => intro s; rfl
  | cons a t ih =>
    intro s
    simp only [List.cons_append, run]
    cases step c topic s a with
    | none => rfl
    | some s1 => exact ih s1

theorem step_unsubReturned {c : SubCfg} {topic : Topic} {s s' : St} {a : Act} (h : step c topic s a = some s')
    (hu : s.unsubReturned = true) : s'.unsubReturned = true := by
  -- only `unsubscribe` writes the flag, and it sets it
  rcases step_some h with ⟨_, _, _, _, rfl⟩ | ⟨_, _, _, rfl⟩ | ⟨_, _, _, _, rfl⟩ | ⟨_, rfl⟩ | ⟨_, _, rfl⟩
  · exact hu
  · exact hu
  · exact hu
  · rfl
  · exact hu

theorem run_unsubReturned (c : SubCfg) (topic : Topic) (as : List Act) : ∀ (s s' : St),
    run c topic s as = some s' → s.unsubReturned = true → s'.unsubReturned = true := by
  induction as with
  | nil => intro s s' h hu; cases h; exact hu
  | cons a t ih =>
    intro s s' h hu
    obtain ⟨s1, hs, h⟩ := run_cons.mp h
    exact ih s1 s' h (step_unsubReturned hs hu)

/-- A subscriber that stays subscribed and meets no panic loses nothing, from any state: `log ++ owed for
the queue = owed for the history` is preserved by publishes and worker steps. -/
theorem run_lossless (c : SubCfg) (topic : Topic) (as : List Act) : ∀ (s0 s : St),
    (∀ a ∈ as, a ≠ Act.unsubscribe ∧ a ≠ Act.abandon) →
    (∀ a ∈ as, ∀ m, a = Act.publish m → (handle c m.pkt).isCrash = false) →
    (s0.w.log ++ s0.queue.filterMap (deliver c) = s0.accepted.filterMap (deliver c) ∧ s0.w.alive = true ∧
      ∀ p ∈ s0.queue, (handle c p).isCrash = false) →
    run c topic s0 as = some s →
    (s.w.log ++ s.queue.filterMap (deliver c) = s.accepted.filterMap (deliver c) ∧ s.w.alive = true) := by
  induction as with
  | nil => intro s0 s _ _ hi hr; cases hr; exact ⟨hi.1, hi.2.1⟩
  | cons a t ih =>
    intro s0 s hno hcr ⟨hinv, hal, hq⟩ hr
    obtain ⟨s1, hs, hr⟩ := run_cons.mp hr
    refine ih s1 s (fun x hx => hno x (List.mem_cons_of_mem _ hx)) (fun x hx => hcr x (List.mem_cons_of_mem _ hx)) ?_ hr
    rcases step_some hs with ⟨m, rfl, -, -, rfl⟩ | ⟨m, rfl, -, rfl⟩ | ⟨p, q, rfl, hqq, rfl⟩ | ⟨rfl, -⟩ | ⟨rfl, -, -⟩
    · -- handed over: owed for the queue and for the history alike
      refine ⟨?_, hal, List.forall_mem_append.2 ⟨hq, by simpa using hcr _ List.mem_cons_self m rfl⟩⟩
      simp only [List.filterMap_append]
      rw [← List.append_assoc, hinv]
    · exact ⟨hinv, hal, hq⟩
    · -- a worker step moves what is owed for the head of the queue into the log
      rw [hqq] at hq hinv
      have r := recv_log c s0.w p hal (hq p List.mem_cons_self)
      refine ⟨?_, r.1, fun x hx => hq x (List.mem_cons_of_mem _ hx)⟩
      rw [← hinv, filterMap_cons_toList, ← List.append_assoc, ← r.2]
    · exact absurd rfl (hno _ List.mem_cons_self).1
    · exact absurd rfl (hno _ List.mem_cons_self).2

/-- The measure every step of the hand-over decreases: frames still to process count double, messages in `sub.C` once. -/
def Stomp.mu (s : Stomp) : Nat := 2 * s.frames.length + s.subC

/-- The three ways a step can be enabled, and what it does. -/
theorem sstep_some {s s' : Stomp} {a : SAct} (h : sstep s a = some s') :
    (∃ fs, s.frames = true :: fs ∧ s.subC < s.cap ∧ s' = { s with frames := fs, subC := s.subC + 1 }) ∨
    (∃ fs, s.frames = false :: fs ∧ s' = { s with frames := fs, closed := true }) ∨
    (s.loopRunning = true ∧ 0 < s.subC ∧ s' = { s with subC := s.subC - 1 }) := by
  cases a with
  | handOver =>
    simp only [sstep] at h
    split at h
    · split at h <;> cases h
      exact .inl ⟨_, ‹_›, ‹_›, rfl⟩
    · cases h
  | receipt =>
    simp only [sstep] at h
    split at h <;> cases h
    exact .inr (.inl ⟨_, ‹_›, rfl⟩)
  | drain =>
    simp only [sstep] at h
    split at h <;> cases h
    exact .inr (.inr ⟨(‹_ ∧ _›).1, (‹_ ∧ _›).2, rfl⟩)

theorem sstep_mu (s s' : Stomp) (a : SAct) (h : sstep s a = some s') : s'.mu < s.mu := by
  rcases sstep_some h with ⟨fs, hf, -, rfl⟩ | ⟨fs, hf, rfl⟩ | ⟨-, hpos, rfl⟩
  · simp only [Stomp.mu, hf, List.length_cons]; omega
  · simp only [Stomp.mu, hf, List.length_cons]; omega
  · simp only [Stomp.mu]; omega

/-- Invariant of the fixed order: the loop runs, and while not closed the RECEIPT is still to come. -/
def Stomp.Good (s : Stomp) : Prop :=
  s.loopRunning = true ∧ 1 ≤ s.cap ∧ s.subC ≤ s.cap ∧ (s.closed = false → false ∈ s.frames)

theorem good_waiting (cap k : Nat) (hc : 1 ≤ cap) : (Stomp.waiting cap k false).Good := by
  refine ⟨rfl, hc, Nat.zero_le _, fun _ => ?_⟩
  simp [Stomp.waiting]

theorem good_step (s s' : Stomp) (a : SAct) (hg : s.Good) (h : sstep s a = some s') : s'.Good := by
  obtain ⟨hl, hc, hle, hr⟩ := hg
  rcases sstep_some h with ⟨fs, hf, hlt, rfl⟩ | ⟨fs, hf, rfl⟩ | ⟨-, hpos, rfl⟩
  · exact ⟨hl, hc, hlt, fun hcl => by simpa [hf] using hr hcl⟩
  · exact ⟨hl, hc, hle, fun hcl => by cases hcl⟩
  · exact ⟨hl, hc, Nat.le_trans (Nat.sub_le _ _) hle, hr⟩

theorem good_progress (s : Stomp) (hg : s.Good) (hcl : s.closed = false) : ∃ a s', sstep s a = some s' := by
  obtain ⟨hl, hc, hle, hr⟩ := hg
  have hm := hr hcl
  cases hf : s.frames with
  | nil => rw [hf] at hm; cases hm
  | cons b fs =>
    cases b with
    | false => exact ⟨.receipt, { s with frames := fs, closed := true }, by simp only [sstep, hf]⟩
    | true =>
      by_cases hlt : s.subC < s.cap
      · exact ⟨.handOver, { s with frames := fs, subC := s.subC + 1 }, by simp only [sstep, hf, hlt, if_true]⟩
      · have hpos : 0 < s.subC := by omega
        exact ⟨.drain, { s with subC := s.subC - 1 }, by simp only [sstep, hl, hpos, and_self, if_true]⟩

/-- A schedule of the hand-over, step by step; `none` as soon as a step is not enabled. -/
def srun : Stomp → List SAct → Option Stomp
  | s, [] => some s
  | s, a :: as => match sstep s a with
    | some s' => srun s' as
    | none => none

theorem good_run (as : List SAct) : ∀ (s s' : Stomp), s.Good → srun s as = some s' → s'.Good := by
  induction as with
  | nil => intro s s' hg h; simp only [srun] at h; cases h; exact hg
  | cons a t ih =>
    intro s s' hg h
    simp only [srun] at h
    cases hs : sstep s a with
    | none => rw [hs] at h; cases h
    | some s1 => rw [hs] at h; exact ih s1 s' (good_step s s1 a hg hs) h

end FV.PubSub
