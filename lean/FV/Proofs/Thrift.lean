/- Well-typed values (`WT`) and what the emitted Write / Read / Skip (FV.Model.Thrift) do on them. The call
sequence of a well-typed value is built shape by shape; `enc_induct` is that construction as an induction
principle, and the round trip, `Skip` and the byte-level shape (FV.Proofs.ThriftFits) are its instances. -/
import FV.Model.Thrift

namespace FV.Thrift

-- Boolean equality of values is equality. (Structural recursion: the default, by a measure, is far slower to
-- check for this nested type.)
mutual
theorem Val.beq_iff : ∀ (v w : Val), Val.beq v w = true ↔ v = w
  | .bool a, w | .int a, w | .dbl a, w | .bytes a, w => by cases w <;> simp [Val.beq]
  | .list a, w => by
    cases w <;> simp only [Val.beq, Val.list.injEq, reduceCtorEq, Bool.false_eq_true]
    exact Val.beqList_iff a _
  | .map a, w => by
    cases w <;> simp only [Val.beq, Val.map.injEq, reduceCtorEq, Bool.false_eq_true]
    exact Val.beqPairs_iff a _
  | .struct a, w => by
    cases w <;> simp only [Val.beq, Val.struct.injEq, reduceCtorEq, Bool.false_eq_true]
    exact Val.beqFields_iff a _
termination_by structural v => v
theorem Val.beqList_iff : ∀ (a b : List Val), Val.beqList a b = true ↔ a = b
  | [], b => by cases b <;> simp [Val.beqList]
  | x :: xs, b => by
    cases b with
    | nil => simp [Val.beqList]
    | cons y ys => simp only [Val.beqList, Bool.and_eq_true, List.cons.injEq, Val.beq_iff x y, Val.beqList_iff xs ys]
termination_by structural a => a
theorem Val.beqPairs_iff : ∀ (a b : List (Val × Val)), Val.beqPairs a b = true ↔ a = b
  | [], b => by cases b <;> simp [Val.beqPairs]
  | (k1, v1) :: xs, b => by
    cases b with
    | nil => simp [Val.beqPairs]
    | cons y ys =>
      obtain ⟨k2, v2⟩ := y
      simp only [Val.beqPairs, Bool.and_eq_true, List.cons.injEq, Prod.mk.injEq, Val.beq_iff k1 k2, Val.beq_iff v1 v2, Val.beqPairs_iff xs ys, and_assoc]
termination_by structural a => a
theorem Val.beqFields_iff : ∀ (a b : List (Int × Val)), Val.beqFields a b = true ↔ a = b
  | [], b => by cases b <;> simp [Val.beqFields]
  | (i1, v1) :: xs, b => by
    cases b with
    | nil => simp [Val.beqFields]
    | cons y ys =>
      obtain ⟨i2, v2⟩ := y
      simp only [Val.beqFields, Bool.and_eq_true, List.cons.injEq, Prod.mk.injEq, Val.beq_iff v1 v2, Val.beqFields_iff xs ys, and_assoc, beq_iff_eq]
termination_by structural a => a
end

instance : DecidableEq Val := fun a b =>
  if h : Val.beq a b = true then isTrue ((Val.beq_iff a b).mp h) else isFalse (fun e => h ((Val.beq_iff a b).mpr e))

/-- Pointwise relation between two lists. -/
inductive All2 {α β : Type} (R : α → β → Prop) : List α → List β → Prop where
  | nil : All2 R [] []
  | cons {a b as bs} : R a b → All2 R as bs → All2 R (a :: as) (b :: bs)

theorem All2.imp_mem {α β : Type} {R S : α → β → Prop} :
    ∀ {l : List α} {l' : List β}, All2 R l l' → (∀ a ∈ l, ∀ b, R a b → S a b) → All2 S l l' := by
  intro l l' hl
  induction hl with
  | nil => intro _; exact .nil
  | cons hr _ ih => intro h; exact .cons ((List.forall_mem_cons.mp h).1 _ hr) (ih (List.forall_mem_cons.mp h).2)

theorem _root_.FV.Res.of_exists_ok {α : Type} {r : Res α} {a : α} {P : α → Prop} (h : ∃ b, r = .ok b ∧ P b)
    (hr : r = .ok a) : P a := by
  obtain ⟨b, hb, hp⟩ := h
  cases hr.symm.trans hb
  exact hp

theorem concatRes_map_ok {α : Type} (g : α → Res (List Event)) :
    ∀ (l : List α) (es : List Event), concatRes (l.map g) = .ok es →
      ∃ cs : List (List Event), All2 (fun x c => g x = .ok c) l cs ∧ es = cs.flatten := by
  intro l
  induction l with
  | nil => intro es h; cases h; exact ⟨[], .nil, rfl⟩
  | cons x t ih =>
    intro es h
    simp only [List.map_cons, concatRes] at h
    cases hc : g x <;> rw [hc] at h <;> try cases h
    cases hes : concatRes (t.map g) <;> rw [hes] at h <;> cases h
    obtain ⟨cs, hf, rfl⟩ := ih _ hes
    exact ⟨_ :: cs, .cons hc hf, rfl⟩

theorem concatRes_map_of_forall {α : Type} {g : α → Res (List Event)} {R : α → List Event → Prop} :
    ∀ {l : List α}, (∀ x ∈ l, ∃ c, g x = .ok c ∧ R x c) →
      ∃ cs : List (List Event), concatRes (l.map g) = .ok cs.flatten ∧ All2 R l cs
  | [], _ => ⟨[], rfl, .nil⟩
  | a :: l, h => by
    obtain ⟨⟨c, hc, hr⟩, ht⟩ := List.forall_mem_cons.mp h
    obtain ⟨cs, hcs, hall⟩ := concatRes_map_of_forall ht
    exact ⟨c :: cs, by simp only [List.map_cons, concatRes, hc, hcs, List.flatten_cons], .cons hr hall⟩

theorem concatRes_pair_ok (ca cb : List Event) : concatRes [.ok ca, .ok cb] = .ok (ca ++ cb) := by
  simp only [concatRes, List.append_nil]

theorem concatRes_ok_mem {rs : List (Res (List Event))} {es : List Event} (h : concatRes rs = .ok es) :
    ∀ r ∈ rs, ∃ c, r = .ok c := by
  induction rs generalizing es with
  | nil => intro r hr; cases hr
  | cons a t ih =>
    simp only [concatRes] at h
    cases a <;> try cases h
    cases ht : concatRes t <;> rw [ht] at h <;> cases h
    intro r hr
    rcases List.mem_cons.mp hr with rfl | hm
    · exact ⟨_, rfl⟩
    · exact ih ht r hm

/-- `concatRes` returns a success, or the first element of the list that is not one. So a class `S` of results
that contains every success, and every element of the list, contains `concatRes` of the list. -/
theorem concatRes_closed {S : Res (List Event) → Prop} (hok : ∀ es, S (.ok es)) :
    ∀ (rs : List (Res (List Event))), (∀ r ∈ rs, S r) → S (concatRes rs) := by
  intro rs
  induction rs with
  | nil => intro _; exact hok _
  | cons r t ih =>
    intro h
    obtain ⟨hr, ht⟩ := List.forall_mem_cons.mp h
    have ht := ih ht
    cases r with
    | ok c =>
      simp only [concatRes]
      cases hes : concatRes t <;> rw [hes] at ht
      · exact hok _
      · exact ht
      · exact ht
    | err e | panic p => exact hr

/-- What the emitted `Write` of a container, a struct-like or a field does with the result for its body:
brackets around a success, a failure as it is. -/
def wrapRes (pre post : List Event) : Res (List Event) → Res (List Event)
  | .ok b => .ok (pre ++ b ++ post)
  | .err e => .err e
  | .panic p => .panic p

theorem wrapRes_eq_ok {pre post es : List Event} {r : Res (List Event)} (h : wrapRes pre post r = .ok es) :
    ∃ b, r = .ok b ∧ es = pre ++ b ++ post := by
  cases r <;> cases h
  exact ⟨_, rfl, rfl⟩

theorem wrapRes_closed {S : Res (List Event) → Prop} (hok : ∀ es, S (.ok es)) {pre post : List Event}
    {r : Res (List Event)} (h : S r) : S (wrapRes pre post r) := by
  cases r with
  | ok b => exact hok _
  | err e | panic p => exact h

/-- Well-typed values in canonical form, within depth `n`. -/
def WT (d : Defs) : Nat → Ty → Val → Prop
  | 0, _, _ => False
  | n + 1, t, v =>
    match resolve d t, v with
    | .bool, .bool _ => True
    | .byte, .int _ => True
    | .i16, .int _ => True
    | .i32, .int _ => True
    | .i64, .int _ => True
    | .enum _, .int _ => True
    | .double, .dbl _ => True
    | .string, .bytes _ => True
    | .binary, .bytes _ => True
    | .list a, .list vs => ∀ x ∈ vs, WT d n a x
    | .set a, .list vs => ∀ x ∈ vs, WT d n a x
    | .map kt vt, .map kvs => ∀ kv ∈ kvs, WT d n kt kv.1 ∧ WT d n vt kv.2
    | .struct nm, .struct fs =>
      ∃ sd, lookupStruct d nm = some sd ∧ (sd.fields.map (·.id)).Nodup ∧
        fs = normFields sd fs ∧
        (sd.kind = .union → (sd.fields.filter fun f => (lookupVal fs f.id).isSome).length = 1) ∧
        (∀ f ∈ sd.fields, f.req ≠ .optional → sd.kind ≠ .union → (lookupVal fs f.id).isSome) ∧
        (∀ f ∈ sd.fields, ∀ x, lookupVal fs f.id = some x → WT d n f.ty x) ∧
        -- a listed field is SET: a non-pointer optional field differs from its default
        (∀ f ∈ sd.fields, ∀ x, lookupVal fs f.id = some x → isSetVal sd f x = true) ∧
        -- the declared defaults are themselves well-typed values of the field types
        (∀ f ∈ sd.fields, ∀ dv, f.dflt = some dv → WT d n f.ty dv)
    | _, _ => False

/-- A list and a set are written, read and skipped by the same code, up to the names of the calls: `bg` and `en`
are the begin and end calls of the (resolved) type, `a` the type of its elements, `w` its wire type. -/
inductive ListLike : Ty → Ty → (Nat → Nat → Event) → Event → Nat → Prop
  | list (a) : ListLike (.list a) a .lb .le 15
  | set (a) : ListLike (.set a) a .tb .te 14

section
variable {d : Defs} {n : Nat} {t : Ty}

theorem encV_seq {rt a : Ty} {bg : Nat → Nat → Event} {en : Event} {w : Nat} (hr : resolve d t = rt)
    (h : ListLike rt a bg en w) (vs : List Val) :
    encV d (n + 1) t (.list vs) =
      wrapRes [bg (wireOf d a) vs.length] [en] (concatRes (vs.map (encV d n a))) := by
  cases h <;> simp only [encV, hr] <;> cases concatRes (vs.map (encV d n a)) <;> rfl

theorem encV_map {kt vt : Ty} (h : resolve d t = .map kt vt) (kvs : List (Val × Val)) :
    encV d (n + 1) t (.map kvs) =
      wrapRes [.mb (wireOf d kt) (wireOf d vt) kvs.length] [.me]
        (concatRes (kvs.map fun kv => concatRes [encV d n kt kv.1, encV d n vt kv.2])) := by
  simp only [encV, h]
  cases concatRes (kvs.map fun kv => concatRes [encV d n kt kv.1, encV d n vt kv.2]) <;> rfl

theorem encV_struct {nm : String} {sd : StructDef} (h : resolve d t = .struct nm) (hsd : lookupStruct d nm = some sd)
    (fs : List (Int × Val)) :
    encV d (n + 1) t (.struct fs) =
      if sd.kind = .union ∧ (sd.fields.filter (isSetIn sd fs)).length ≠ 1 then .err .invalidData
      else wrapRes [.sb sd.name] [.fs, .se] (concatRes (sd.fields.map (fieldEvents d (encV d n) sd fs))) := by
  simp only [encV, h, hsd]
  split
  · rfl
  · cases concatRes (sd.fields.map (fieldEvents d (encV d n) sd fs)) <;> rfl

end

/-- What the emitted `Write` of a struct-like emits: StructBegin(name), one chunk per declared field in
declaration order (each the result of that field's `writeFieldN`, of which `R` is a consequence), FieldStop,
StructEnd. -/
theorem encV_struct_chunks (d : Defs) (n : Nat) (t : Ty) (nm : String) (sd : StructDef)
    (fs : List (Int × Val)) (es : List Event) {R : Field → List Event → Prop}
    (hres : resolve d t = .struct nm) (hsd : lookupStruct d nm = some sd)
    (henc : encV d (n + 1) t (.struct fs) = .ok es)
    (hR : ∀ f c, fieldEvents d (encV d n) sd fs f = .ok c → R f c) :
    ∃ cs : List (List Event), es = [.sb sd.name] ++ cs.flatten ++ [.fs, .se] ∧ All2 R sd.fields cs := by
  rw [encV_struct hres hsd] at henc
  split at henc
  · cases henc
  · obtain ⟨b, hb, rfl⟩ := wrapRes_eq_ok henc
    obtain ⟨cs, hall, rfl⟩ := concatRes_map_ok _ _ _ hb
    exact ⟨cs, rfl, hall.imp_mem fun f _ c => hR f c⟩

/-- A field that is not optional (and not a union's) has no default `IsSet` compares with. -/
theorem isSetVal_of_not_optional (sd : StructDef) (f : Field) (v : Val)
    (h : ¬ (f.req = .optional ∨ sd.kind = .union)) : isSetVal sd f v = true := by
  unfold isSetVal cmpDflt
  rw [if_neg h]

theorem isSetVal_kind (sd sd' : StructDef) (hk : sd'.kind = sd.kind) (f : Field) (v : Val) :
    isSetVal sd' f v = isSetVal sd f v := by
  unfold isSetVal cmpDflt; rw [hk]

section
variable {d : Defs} {enc : Ty → Val → Res (List Event)} {sd : StructDef} {fs : List (Int × Val)} {f : Field}

theorem fieldEvents_listed {x : Val} (hl : lookupVal fs f.id = some x) :
    fieldEvents d enc sd fs f =
      if isSetVal sd f x = true then wrapRes [.fb f.name (wireOf d f.ty) f.id] [.fe] (enc f.ty x) else .ok [] := by
  simp only [fieldEvents, hl]
  split
  · cases enc f.ty x <;> rfl
  · rfl

theorem fieldEvents_unlisted (hl : lookupVal fs f.id = none) :
    fieldEvents d enc sd fs f =
      if f.req = .optional ∨ sd.kind = .union then .ok [] else
      wrapRes [.fb f.name (wireOf d f.ty) f.id] [.fe] (match f.dflt with
        | some dv => enc f.ty dv
        | none => match zeroEvents d f.ty with
          | some zs => .ok zs
          | none => .panic .index) := by
  simp only [fieldEvents, hl]
  split
  · rfl
  · cases f.dflt with
    | some dv => simp only; cases enc f.ty dv <;> rfl
    | none => simp only; cases zeroEvents d f.ty <;> rfl

/-- What one emitted `writeFieldN` wrote when it succeeded: nothing, for a field that is not set and may be
absent; else the header, the calls for the field's content (`Get<F>()`: the listed value, else the
constructor's default) and the end. -/
theorem fieldEvents_ok {c : List Event} (h : fieldEvents d enc sd fs f = .ok c) :
    (isSetIn sd fs f = false ∧ (f.req = .optional ∨ sd.kind = .union) ∧ c = []) ∨
    ((isSetIn sd fs f = true ∨ ¬ (f.req = .optional ∨ sd.kind = .union)) ∧
      ∃ body, c = [.fb f.name (wireOf d f.ty) f.id] ++ body ++ [.fe] ∧
        ∀ v, getField fs f = some v → enc f.ty v = .ok body) := by
  unfold isSetIn getField
  cases hl : lookupVal fs f.id with
  | some x =>
    rw [fieldEvents_listed hl] at h
    split at h
    · rename_i hs
      obtain ⟨body, hb, rfl⟩ := wrapRes_eq_ok h
      exact .inr ⟨.inl hs, body, rfl, fun v hv => by cases hv; exact hb⟩
    · rename_i hs
      cases h
      exact .inl ⟨Bool.not_eq_true _ ▸ hs, Decidable.by_contra fun ho => hs (isSetVal_of_not_optional sd f x ho), rfl⟩
  | none =>
    rw [fieldEvents_unlisted hl] at h
    split at h
    · rename_i ho
      cases h
      exact .inl ⟨rfl, ho, rfl⟩
    · rename_i ho
      obtain ⟨body, hb, rfl⟩ := wrapRes_eq_ok h
      exact .inr ⟨.inr ho, body, rfl, fun v hv => by rw [show f.dflt = some v from hv] at hb; exact hb⟩

end

theorem lookupVal_cons (i id : Int) (v : Val) (l : List (Int × Val)) :
    lookupVal ((i, v) :: l) id = if i = id then some v else lookupVal l id := by
  simp only [lookupVal, List.find?_cons]
  by_cases h : i = id <;> simp [h]

theorem lookupVal_eq_none {l : List (Int × Val)} {id : Int} (h : id ∉ l.map (·.1)) : lookupVal l id = none := by
  induction l with
  | nil => rfl
  | cons p t ih =>
    simp only [List.map_cons, List.mem_cons, not_or] at h
    rw [lookupVal_cons, if_neg (Ne.symm h.1), ih h.2]

theorem setField_fresh (acc : List (Int × Val)) (id : Int) (v : Val) (h : id ∉ acc.map (·.1)) :
    setField acc id v = acc ++ [(id, v)] := by
  induction acc with
  | nil => rfl
  | cons a t ih =>
    simp only [List.map_cons, List.mem_cons, not_or] at h
    simp only [setField, Ne.symm h.1, if_false, List.cons_append, ih h.2]

theorem find_field (fields : List Field) (hnd : (fields.map (·.id)).Nodup) (f : Field) (hf : f ∈ fields) :
    fields.find? (·.id = f.id) = some f := by
  induction fields with
  | nil => cases hf
  | cons g t ih =>
    simp only [List.map_cons, List.nodup_cons] at hnd
    rcases List.mem_cons.mp hf with rfl | hm
    · simp
    · have hne : g.id ≠ f.id := fun e => hnd.1 (e ▸ List.mem_map_of_mem (f := (·.id)) hm)
      simp only [List.find?_cons, hne, decide_false]
      exact ih hnd.2 hm

theorem filterMap_fields_ids (h : Field → Option Val) (fl : List Field) :
    ∀ i ∈ (fl.filterMap fun g => (h g).map fun v => (g.id, v)).map (·.1), i ∈ fl.map (·.id) := by
  intro i hi
  simp only [List.mem_map, List.mem_filterMap, Option.map_eq_some_iff] at hi ⊢
  obtain ⟨_, ⟨f, hf, _, _, rfl⟩, rfl⟩ := hi
  exact ⟨f, hf, rfl⟩

theorem lookup_filterMap_fields (h : Field → Option Val) :
    ∀ (fl : List Field), (fl.map (·.id)).Nodup → ∀ f ∈ fl,
      lookupVal (fl.filterMap fun g => (h g).map fun v => (g.id, v)) f.id = h f := by
  intro fl
  induction fl with
  | nil => intro _ f hf; cases hf
  | cons g t ih =>
    intro hnd f hf
    simp only [List.map_cons, List.nodup_cons] at hnd
    have hin := filterMap_fields_ids h t
    rw [List.filterMap_cons]
    rcases List.mem_cons.mp hf with rfl | hm
    · cases hg : h f with
      | none => exact lookupVal_eq_none fun hm => hnd.1 (hin _ hm)
      | some x => rw [Option.map_some, lookupVal_cons, if_pos rfl]
    · have hne : g.id ≠ f.id := fun e => hnd.1 (e ▸ List.mem_map_of_mem (f := (·.id)) hm)
      cases h g with
      | none => exact ih hnd.2 f hm
      | some x => rw [Option.map_some, lookupVal_cons, if_neg hne]; exact ih hnd.2 f hm

theorem filterMap_congr' {α β : Type} (f g : α → Option β) :
    ∀ (l : List α), (∀ x ∈ l, f x = g x) → l.filterMap f = l.filterMap g := by
  intro l
  induction l with
  | nil => intro _; rfl
  | cons a t ih =>
    intro h
    rw [List.filterMap_cons, List.filterMap_cons, (List.forall_mem_cons.mp h).1, ih (List.forall_mem_cons.mp h).2]

theorem lookup_normFields (sd : StructDef) (acc : List (Int × Val)) (hnd : (sd.fields.map (·.id)).Nodup)
    (f : Field) (hf : f ∈ sd.fields) : lookupVal (normFields sd acc) f.id = readState sd acc f :=
  lookup_filterMap_fields (readState sd acc) sd.fields hnd f hf

/-- The entries (in declaration order) of the fields of `fl` that are set in `fs`. -/
def entries (fs : List (Int × Val)) (fl : List Field) : List (Int × Val) :=
  fl.filterMap fun f => (lookupVal fs f.id).map fun v => (f.id, v)

theorem entries_cons_none {fs : List (Int × Val)} {f : Field} (fl : List Field) (h : lookupVal fs f.id = none) :
    entries fs (f :: fl) = entries fs fl := by
  simp [entries, h]

theorem entries_cons_some {fs : List (Int × Val)} {f : Field} {x : Val} (fl : List Field)
    (h : lookupVal fs f.id = some x) : entries fs (f :: fl) = (f.id, x) :: entries fs fl := by
  simp [entries, h]

theorem filter_present_entries (sd : StructDef) (fs : List (Int × Val)) (hnd : (sd.fields.map (·.id)).Nodup) :
    (sd.fields.filter fun f => (lookupVal (entries fs sd.fields) f.id).isSome) =
    (sd.fields.filter fun f => (lookupVal fs f.id).isSome) := by
  apply List.filter_congr
  intro f hf
  rw [show lookupVal (entries fs sd.fields) f.id = lookupVal fs f.id from
    lookup_filterMap_fields (fun f => lookupVal fs f.id) sd.fields hnd f hf]

theorem readState_eq_lookup {sd : StructDef} {fs : List (Int × Val)} {f : Field}
    (habs : lookupVal fs f.id = none → f.req = .optional ∨ sd.kind = .union)
    (hset : ∀ x, lookupVal fs f.id = some x → isSetVal sd f x = true) : readState sd fs f = lookupVal fs f.id := by
  unfold readState
  cases hl : lookupVal fs f.id with
  | none => simp only [if_pos (habs hl)]
  | some x => simp only [if_pos (hset x hl)]

theorem normFields_eq_entries (sd : StructDef) (fs : List (Int × Val))
    (habs : ∀ f ∈ sd.fields, lookupVal fs f.id = none → f.req = .optional ∨ sd.kind = .union)
    (hset : ∀ f ∈ sd.fields, ∀ x, lookupVal fs f.id = some x → isSetVal sd f x = true) :
    normFields sd fs = entries fs sd.fields :=
  filterMap_congr' _ _ _ fun f hf => by rw [readState_eq_lookup (habs f hf) (hset f hf)]

theorem isSetIn_eq_isSome (sd : StructDef) (fs : List (Int × Val))
    (hset : ∀ f ∈ sd.fields, ∀ x, lookupVal fs f.id = some x → isSetVal sd f x = true) :
    (sd.fields.filter (isSetIn sd fs)) = (sd.fields.filter fun f => (lookupVal fs f.id).isSome) := by
  apply List.filter_congr
  intro f hf
  unfold isSetIn
  cases hl : lookupVal fs f.id with
  | none => rfl
  | some x => simp only [hset f hf x hl, Option.isSome_some]

theorem optional_of_absent (sd : StructDef) (fs : List (Int × Val))
    (hreq : ∀ f ∈ sd.fields, f.req ≠ .optional → sd.kind ≠ .union → (lookupVal fs f.id).isSome) :
    ∀ f ∈ sd.fields, lookupVal fs f.id = none → f.req = .optional ∨ sd.kind = .union := by
  intro f hf hl
  by_cases hr : f.req = .optional
  · exact .inl hr
  · by_cases hk : sd.kind = .union
    · exact .inr hk
    · have := hreq f hf hr hk
      rw [hl] at this; cases this

/-- A value of base type and the one call the emitted `Write` makes for it: the base case of `enc_induct`. -/
inductive Scalar : Ty → Val → Event → Prop
  | bool (b) : Scalar .bool (.bool b) (.bool b)
  | byte (k) : Scalar .byte (.int k) (.byte k)
  | i16 (k) : Scalar .i16 (.int k) (.i16 k)
  | i32 (k) : Scalar .i32 (.int k) (.i32 k)
  | i64 (k) : Scalar .i64 (.int k) (.i64 k)
  | enum (nm k) : Scalar (.enum nm) (.int k) (.i32 k)
  | double (b) : Scalar .double (.dbl b) (.dbl b)
  | string (b) : Scalar .string (.bytes b) (.str false b)
  | binary (b) : Scalar .binary (.bytes b) (.str true b)

/-- The conjuncts of `WT` at a struct-like, by name: what `enc_induct` hands to its struct case. -/
structure WTStruct (d : Defs) (n : Nat) (sd : StructDef) (fs : List (Int × Val)) : Prop where
  nodup : (sd.fields.map (·.id)).Nodup
  canon : fs = normFields sd fs
  union : sd.kind = .union → (sd.fields.filter fun f => (lookupVal fs f.id).isSome).length = 1
  req : ∀ f ∈ sd.fields, f.req ≠ .optional → sd.kind ≠ .union → (lookupVal fs f.id).isSome
  fields : ∀ f ∈ sd.fields, ∀ x, lookupVal fs f.id = some x → WT d n f.ty x
  set : ∀ f ∈ sd.fields, ∀ x, lookupVal fs f.id = some x → isSetVal sd f x = true
  dflt : ∀ f ∈ sd.fields, ∀ dv, f.dflt = some dv → WT d n f.ty dv

theorem WT.struct {d : Defs} {n : Nat} {t : Ty} {nm : String} {fs : List (Int × Val)}
    (hres : resolve d t = .struct nm) (h : WT d (n + 1) t (.struct fs)) :
    ∃ sd, lookupStruct d nm = some sd ∧ WTStruct d n sd fs := by
  unfold WT at h
  simp only [hres] at h
  obtain ⟨sd, hsd, h1, h2, h3, h4, h5, h6, h7⟩ := h
  exact ⟨sd, hsd, h1, h2, h3, h4, h5, h6, h7⟩

/-- The chunk `writeFieldN` produced for `f` in a well-typed struct value, its body satisfying `Q`: nothing
for an unlisted field, `FieldBegin … FieldEnd` around the calls for the listed value otherwise. -/
def FieldChunk (d : Defs) (fs : List (Int × Val)) (Q : Ty → Val → List Event → Prop) (f : Field)
    (c : List Event) : Prop :=
  (lookupVal fs f.id = none ∧ c = []) ∨ ∃ x body, lookupVal fs f.id = some x ∧
    Q f.ty x body ∧ c = [.fb f.name (wireOf d f.ty) f.id] ++ body ++ [.fe]

namespace WTStruct
variable {d : Defs} {n : Nat} {sd : StructDef} {fs : List (Int × Val)} (h : WTStruct d n sd fs)
include h

theorem absent : ∀ f ∈ sd.fields, lookupVal fs f.id = none → f.req = .optional ∨ sd.kind = .union :=
  optional_of_absent sd fs h.req

/-- A canonical value lists exactly its set fields, in declaration order. -/
theorem entries_eq : entries fs sd.fields = fs := by
  rw [← normFields_eq_entries sd fs h.absent h.set]; exact h.canon.symm

theorem unlisted {id : Int} (hid : id ∉ sd.fields.map (·.id)) : lookupVal fs id = none :=
  lookupVal_eq_none fun hm => hid (by rw [← h.entries_eq] at hm; exact filterMap_fields_ids _ _ _ hm)

/-- The union check of the emitted `Write` passes. -/
theorem union_ok : ¬ (sd.kind = .union ∧ (sd.fields.filter (isSetIn sd fs)).length ≠ 1) := by
  rw [isSetIn_eq_isSome sd fs h.set]
  exact fun hu => hu.2 (h.union hu.1)

/-- The emitted `Write` of a well-typed struct value whose listed fields are written with success (and `Q`):
the brackets around one chunk per declared field. -/
theorem enc {t : Ty} {nm : String} {Q : Ty → Val → List Event → Prop} (hres : resolve d t = .struct nm)
    (hsd : lookupStruct d nm = some sd)
    (hf : ∀ f ∈ sd.fields, ∀ x, lookupVal fs f.id = some x → ∃ body, encV d n f.ty x = .ok body ∧ Q f.ty x body) :
    ∃ cs, encV d (n + 1) t (.struct fs) = .ok ([.sb sd.name] ++ cs.flatten ++ [.fs, .se]) ∧
      All2 (FieldChunk d fs Q) sd.fields cs := by
  obtain ⟨cs, he, hall⟩ := concatRes_map_of_forall (g := fieldEvents d (encV d n) sd fs) (R := FieldChunk d fs Q)
    fun f hm => by
      cases hl : lookupVal fs f.id with
      | none => exact ⟨[], by rw [fieldEvents_unlisted hl, if_pos (h.absent f hm hl)], .inl ⟨hl, rfl⟩⟩
      | some x =>
        obtain ⟨body, hb, hq⟩ := hf f hm x hl
        exact ⟨_, by rw [fieldEvents_listed hl, if_pos (h.set f hm x hl), hb]; rfl, .inr ⟨x, body, hl, hq, rfl⟩⟩
  exact ⟨cs, by rw [encV_struct hres hsd, if_neg h.union_ok, he]; rfl, hall⟩

end WTStruct

/-- Induction on a well-typed value by the shape of its type: a base type (through `Scalar`), list or set (through
`ListLike`), map, struct-like. The one place that reads the definition of `WT` arm by arm. -/
theorem WT.shape_induct (d : Defs) {motive : Nat → Ty → Val → Prop}
    (scalar : ∀ n t rt v e, resolve d t = rt → Scalar rt v e → motive (n + 1) t v)
    (seq : ∀ n t rt a bg en w vs, resolve d t = rt → ListLike rt a bg en w → (∀ x ∈ vs, motive n a x) →
      motive (n + 1) t (.list vs))
    (map : ∀ n t kt vt kvs, resolve d t = .map kt vt →
      (∀ kv ∈ kvs, motive n kt kv.1 ∧ motive n vt kv.2) → motive (n + 1) t (.map kvs))
    (struct : ∀ n t nm sd fs, resolve d t = .struct nm → lookupStruct d nm = some sd → WTStruct d n sd fs →
      (∀ f ∈ sd.fields, ∀ x, lookupVal fs f.id = some x → motive n f.ty x) → motive (n + 1) t (.struct fs)) :
    ∀ (n : Nat) (t : Ty) (v : Val), WT d n t v → motive n t v := by
  intro n
  induction n with
  | zero => intro t v h; exact h.elim
  | succ n ih =>
    intro t v hwt
    have h := hwt
    unfold WT at h
    -- the arms of `WT`, in the order of its definition: nine base types, list, set, map, struct, ill-typed
    split at h
    case h_10 a vs hres | h_11 a vs hres =>  -- list, set
      exact seq n t _ a _ _ _ vs hres (by constructor) fun x hx => ih a x (h x hx)
    case h_12 kt vt kvs hres =>  -- map
      exact map n t kt vt kvs hres fun kv hkv => ⟨ih kt kv.1 (h kv hkv).1, ih vt kv.2 (h kv hkv).2⟩
    case h_13 nm fs hres =>  -- struct
      obtain ⟨sd, hsd, hw⟩ := WT.struct hres hwt
      exact struct n t nm sd fs hres hsd hw fun f hf x hl => ih f.ty x (hw.fields f hf x hl)
    case h_14 => exact h.elim  -- ill-typed
    -- the nine base types: `Scalar` has one constructor for each
    all_goals
      rename_i hres
      exact scalar n t _ _ _ hres (by constructor)

/-- How the call sequence of a well-typed value is built: the emitted `Write` succeeds on it, one case per
shape of value, each sequence from the sequences of the parts. A fact about everything the emitted `Write`
produces is proved by giving the cases. -/
theorem enc_induct (d : Defs) {P : Nat → Ty → Val → List Event → Prop}
    (scalar : ∀ n t rt v e, resolve d t = rt → Scalar rt v e → P (n + 1) t v [e])
    (seq : ∀ n t rt a bg en w vs cs, resolve d t = rt → ListLike rt a bg en w → All2 (P n a) vs cs →
      P (n + 1) t (.list vs) ([bg (wireOf d a) vs.length] ++ cs.flatten ++ [en]))
    (map : ∀ n t kt vt kvs cs, resolve d t = .map kt vt →
      All2 (fun (kv : Val × Val) c => ∃ ck cv, P n kt kv.1 ck ∧ P n vt kv.2 cv ∧ c = ck ++ cv) kvs cs →
      P (n + 1) t (.map kvs) ([.mb (wireOf d kt) (wireOf d vt) kvs.length] ++ cs.flatten ++ [.me]))
    (struct : ∀ n t nm sd fs cs, resolve d t = .struct nm → lookupStruct d nm = some sd →
      WTStruct d n sd fs → All2 (FieldChunk d fs (P n)) sd.fields cs →
      P (n + 1) t (.struct fs) ([.sb sd.name] ++ cs.flatten ++ [.fs, .se])) :
    ∀ (n : Nat) (t : Ty) (v : Val), WT d n t v → ∃ es, encV d n t v = .ok es ∧ P n t v es := by
  refine WT.shape_induct d ?_ ?_ ?_ ?_
  · intro n t rt v e hr h
    have hp := scalar n t rt v e hr h
    cases h <;> exact ⟨_, by simp only [encV, hr], hp⟩
  · intro n t rt a bg en w vs hr h ih
    obtain ⟨cs, he, hall⟩ := concatRes_map_of_forall ih
    exact ⟨_, by rw [encV_seq hr h, he]; rfl, seq n t rt a bg en w vs cs hr h hall⟩
  · intro n t kt vt kvs hres ih
    obtain ⟨cs, he, hall⟩ := concatRes_map_of_forall
      (g := fun (kv : Val × Val) => concatRes [encV d n kt kv.1, encV d n vt kv.2])
      (R := fun kv c => ∃ ck cv, P n kt kv.1 ck ∧ P n vt kv.2 cv ∧ c = ck ++ cv) fun kv hkv => by
        obtain ⟨⟨ck, hk, hpk⟩, ⟨cv, hv, hpv⟩⟩ := ih kv hkv
        exact ⟨_, by rw [hk, hv, concatRes_pair_ok], ck, cv, hpk, hpv, rfl⟩
    exact ⟨_, by rw [encV_map hres, he]; rfl, map n t kt vt kvs cs hres hall⟩
  · intro n t nm sd fs hres hsd hw ih
    obtain ⟨cs, he, hall⟩ := hw.enc hres hsd ih
    exact ⟨_, he, struct n t nm sd fs cs hres hsd hw hall⟩

theorem decN_flatten (dec : List Event → Res (Val × List Event)) :
    ∀ {vs : List Val} {cs : List (List Event)}, All2 (fun x c => ∀ rest, dec (c ++ rest) = .ok (x, rest)) vs cs →
      ∀ (rest : List Event) (acc : List Val),
        decN dec vs.length (cs.flatten ++ rest) acc = .ok (acc.reverse ++ vs, rest) := by
  intro vs cs h
  induction h with
  | nil => intro rest acc; simp [decN]
  | cons hx _ ih =>
    intro rest acc
    simp only [List.length_cons, List.flatten_cons, List.append_assoc, decN, hx, ih]
    simp

theorem decKV_flatten (deck decv : List Event → Res (Val × List Event)) :
    ∀ {kvs : List (Val × Val)} {cs : List (List Event)},
      All2 (fun (kv : Val × Val) c => ∃ ck cv, (∀ rest, deck (ck ++ rest) = .ok (kv.1, rest)) ∧
        (∀ rest, decv (cv ++ rest) = .ok (kv.2, rest)) ∧ c = ck ++ cv) kvs cs →
      ∀ (rest : List Event) (acc : List (Val × Val)),
        decKV deck decv kvs.length (cs.flatten ++ rest) acc = .ok (acc.reverse ++ kvs, rest) := by
  intro kvs cs h
  induction h with
  | nil => intro rest acc; simp [decKV]
  | cons hx _ ih =>
    intro rest acc
    obtain ⟨ck, cv, hk, hv, rfl⟩ := hx
    simp only [List.length_cons, List.flatten_cons, List.append_assoc, decKV, hk, hv, ih]
    simp

/-- The emitted field loop of a reader `sdr` reads back the field chunks of a writer, all of whose fields
`sdr` declares: every listed field, in the writer's order. Each field takes one unit of `fuel` and at least
two calls of the stream. -/
theorem decFields_flatten (d : Defs) (dec : Ty → List Event → Res (Val × List Event))
    (skp : Nat → List Event → Res (List Event)) (sdr : StructDef) (fs : List (Int × Val))
    (hnd : (sdr.fields.map (·.id)).Nodup) :
    ∀ {fl : List Field} {cs : List (List Event)},
      All2 (FieldChunk d fs fun t x body => ∀ rest, dec t (body ++ rest) = .ok (x, rest)) fl cs →
      (∀ f ∈ fl, f ∈ sdr.fields) → (fl.map (·.id)).Nodup →
      ∀ (rest : List Event) (acc : List (Int × Val)) (fuel : Nat),
        (∀ i ∈ acc.map (·.1), i ∉ fl.map (·.id)) → cs.flatten.length < fuel →
        decFields dec skp sdr fuel (cs.flatten ++ .fs :: rest) acc = .ok (acc ++ entries fs fl, rest) := by
  intro fl cs h
  induction h with
  | nil =>
    intro _ _ rest acc fuel _ hfuel
    cases fuel with
    | zero => cases hfuel
    | succ k => simp [decFields, entries]
  | @cons f c fl cs hx _ ih =>
    intro hsub hnd2 rest acc fuel hdis hfuel
    simp only [List.map_cons, List.nodup_cons] at hnd2
    have ih := ih (fun g hg => hsub g (by simp [hg])) hnd2.2 rest
    rcases hx with ⟨hl, rfl⟩ | ⟨x, body, hl, hdec, rfl⟩
    · rw [entries_cons_none fl hl]
      exact ih acc fuel (fun i hi hm => hdis i hi (by simp [hm])) hfuel
    · obtain ⟨k, rfl⟩ : ∃ k, fuel = k + 1 := ⟨fuel - 1, by have := Nat.zero_lt_of_lt hfuel; omega⟩
      have hfresh : f.id ∉ acc.map (·.1) := fun hm => hdis f.id hm (by simp)
      simp only [List.flatten_cons, List.cons_append, List.append_assoc, List.nil_append, decFields,
        find_field sdr.fields hnd f (hsub f (by simp)), hdec, setField_fresh acc f.id x hfresh,
        entries_cons_some fl hl]
      rw [ih (acc ++ [(f.id, x)]) k ?_
        (by simp only [List.flatten_cons, List.length_append, List.length_cons] at hfuel; omega)]
      · simp
      · intro i hi hm
        simp only [List.map_append, List.map_cons, List.map_nil, List.mem_append, List.mem_singleton] at hi
        rcases hi with hi | rfl
        · exact hdis i hi (by simp [hm])
        · exact hnd2.1 hm

/-- The reader's check that no required field is missing (the `issetF` flags), as a statement. -/
theorem required_seen_iff (sd : StructDef) (fs : List (Int × Val)) :
    (sd.fields.any fun f => decide (f.req = Req.required ∧ sd.kind ≠ Kind.union ∧ (lookupVal fs f.id).isNone = true))
        = false ↔
      ∀ f ∈ sd.fields, f.req = .required → sd.kind ≠ .union → (lookupVal fs f.id).isSome := by
  rw [List.any_eq_false]
  refine forall_congr' fun f => forall_congr' fun _ => ?_
  cases lookupVal fs f.id <;> simp

/-- The emitted `Read` of a struct-like `sdr` on what the emitted `Write` of a struct-like `sdw` wrote, when
`sdr` declares the fields of `sdw` (maybe more) and its own checks pass on what arrives. -/
theorem decV_struct_flatten (d : Defs) (n : Nat) (tr : Ty) (nr name : String) (sdw sdr : StructDef)
    (fs : List (Int × Val)) (cs : List (List Event)) (rest : List Event)
    (hrr : resolve d tr = .struct nr) (hsr : lookupStruct d nr = some sdr)
    (hndr : (sdr.fields.map (·.id)).Nodup) (hndw : (sdw.fields.map (·.id)).Nodup)
    (hsub : ∀ f ∈ sdw.fields, f ∈ sdr.fields)
    (hall : All2 (FieldChunk d fs fun t x body => ∀ rest, decV d n t (body ++ rest) = .ok (x, rest)) sdw.fields cs)
    (hreq : ∀ f ∈ sdr.fields, f.req = .required → sdr.kind ≠ .union →
      (lookupVal (entries fs sdw.fields) f.id).isSome)
    (hun : ¬ (sdr.kind = .union ∧ (sdr.fields.filter (isSetIn sdr (entries fs sdw.fields))).length ≠ 1)) :
    decV d (n + 1) tr ([.sb name] ++ cs.flatten ++ [.fs, .se] ++ rest) =
      .ok (.struct (normFields sdr (entries fs sdw.fields)), rest) := by
  have hdf := decFields_flatten d (decV d n) (skip (n + 1)) sdr fs hndr hall hsub hndw (.se :: rest) []
    (cs.flatten ++ .fs :: .se :: rest).length (by intro i hi; cases hi) (by simp)
  simp only [decV, hrr, hsr, List.cons_append, List.nil_append, List.append_assoc, hdf, (required_seen_iff _ _).mpr hreq,
    Bool.false_eq_true, if_false, if_neg hun]

theorem enc_roundtrip (d : Defs) : ∀ (n : Nat) (t : Ty) (v : Val), WT d n t v →
    ∃ es, encV d n t v = .ok es ∧ ∀ rest, decV d n t (es ++ rest) = .ok (v, rest) := by
  refine enc_induct d ?_ ?_ ?_ ?_
  · intro n t rt v e hr h rest
    cases h <;> simp only [decV, hr, List.singleton_append]
  · intro n t rt a bg en w vs cs hr h hall rest
    cases h <;>
      simp only [decV, hr, List.cons_append, List.nil_append, List.append_assoc, decN_flatten (decV d n a) hall,
        List.reverse_nil]
  · intro n t kt vt kvs cs hres hall rest
    simp only [decV, hres, List.cons_append, List.nil_append, List.append_assoc,
      decKV_flatten (decV d n kt) (decV d n vt) hall, List.reverse_nil]
  · intro n t nm sd fs cs hres hsd hw hall rest
    have := decV_struct_flatten d n t nm sd.name sd sd fs cs rest hres hsd hw.nodup hw.nodup (fun f hf => hf) hall
    rw [hw.entries_eq, ← hw.canon] at this
    exact this (fun f hf hr hk => hw.req f hf (by rw [hr]; intro h; cases h) hk) hw.union_ok

/-- The emitted writer succeeds on every well-typed value. -/
theorem enc_total (d : Defs) : ∀ (n : Nat) (t : Ty) (v : Val), WT d n t v → ∃ es, encV d n t v = .ok es :=
  fun n t v h => (enc_roundtrip d n t v h).imp fun _ h => h.1

/-- Reading what the emitted writer wrote reproduces the value and consumes exactly its events:
for every definitions table, every depth budget, every declared type and every well-typed value. -/
theorem roundtrip (d : Defs) : ∀ (n : Nat) (t : Ty) (v : Val) (es rest : List Event),
    WT d n t v → encV d n t v = .ok es → decV d n t (es ++ rest) = .ok (v, rest) := by
  intro n t v es rest hwt henc
  exact Res.of_exists_ok (enc_roundtrip d n t v hwt) henc rest

theorem enc_dec (d : Defs) (n : Nat) (t : Ty) (v : Val) (h : WT d n t v) :
    ∃ es, encV d n t v = .ok es ∧ decV d n t es = .ok (v, []) :=
  (enc_roundtrip d n t v h).imp fun es h => ⟨h.1, List.append_nil es ▸ h.2 []⟩

/-- The wire type of the value that the call `e` begins (`none`: no value begins with it). -/
def Event.wire : Event → Option Nat
  | .bool _ => some 2 | .byte _ => some 3 | .dbl _ => some 4 | .i16 _ => some 6 | .i32 _ => some 8
  | .i64 _ => some 10 | .str _ _ => some 11 | .sb _ => some 12 | .mb _ _ _ => some 13 | .tb _ _ => some 14
  | .lb _ _ => some 15
  | _ => none

/-- `skip` matches on the wire type and the stream together. Read by the head call first: a value is skipped
under the wire type of its first call and under no other. -/
theorem skip_cons (n tt : Nat) (e : Event) (r : List Event) :
    skip (n + 1) tt (e :: r) =
      if e.wire = some tt then
        match e with
        | .sb _ => skipFields (skip n) r.length r
        | .lb et k => (match skipN (skip n) k et r with
          | .ok (.le :: r') => .ok r'
          | .ok _ => .err .invalidData
          | .err e => .err e
          | .panic p => .panic p)
        | .tb et k => (match skipN (skip n) k et r with
          | .ok (.te :: r') => .ok r'
          | .ok _ => .err .invalidData
          | .err e => .err e
          | .panic p => .panic p)
        | .mb kt vt k => (match skipKV (skip n) kt vt k r with
          | .ok (.me :: r') => .ok r'
          | .ok _ => .err .invalidData
          | .err e => .err e
          | .panic p => .panic p)
        | _ => .ok r
      else .err .invalidData := by
  split
  · rename_i h
    cases e <;> cases h <;> rfl
  · -- no case of `skip` but the last applies: each of the others fixes `tt` to the wire type of its head call
    rename_i h
    rw [skip] <;> intros <;> rename_i htt hes <;> cases hes <;> exact h (by rw [htt]; rfl)

theorem skip_nil (n tt : Nat) : skip (n + 1) tt [] = .err .invalidData := by
  rw [skip] <;> intros <;> contradiction

section
variable {d : Defs} {t : Ty}
theorem wireOf_seq {rt a : Ty} {bg : Nat → Nat → Event} {en : Event} {w : Nat} (hr : resolve d t = rt)
    (h : ListLike rt a bg en w) : wireOf d t = w := by cases h <;> simp only [wireOf, hr]
theorem wireOf_map {kt vt : Ty} (h : resolve d t = .map kt vt) : wireOf d t = 13 := by simp only [wireOf, h]
theorem wireOf_struct {nm : String} (h : resolve d t = .struct nm) : wireOf d t = 12 := by simp only [wireOf, h]
end

theorem skipN_flatten (sk : Nat → List Event → Res (List Event)) (tt : Nat) :
    ∀ {vs : List Val} {cs : List (List Event)}, All2 (fun _ c => ∀ rest, sk tt (c ++ rest) = .ok rest) vs cs →
      ∀ rest, skipN sk vs.length tt (cs.flatten ++ rest) = .ok rest := by
  intro vs cs h
  induction h with
  | nil => intro rest; rfl
  | cons hx _ ih => intro rest; simp only [List.length_cons, List.flatten_cons, List.append_assoc, skipN, hx, ih]

theorem skipKV_flatten (sk : Nat → List Event → Res (List Event)) (kt vt : Nat) :
    ∀ {kvs : List (Val × Val)} {cs : List (List Event)},
      All2 (fun (_ : Val × Val) c => ∃ ck cv, (∀ rest, sk kt (ck ++ rest) = .ok rest) ∧
        (∀ rest, sk vt (cv ++ rest) = .ok rest) ∧ c = ck ++ cv) kvs cs →
      ∀ rest, skipKV sk kt vt kvs.length (cs.flatten ++ rest) = .ok rest := by
  intro kvs cs h
  induction h with
  | nil => intro rest; rfl
  | cons hx _ ih =>
    intro rest
    obtain ⟨ck, cv, hk, hv, rfl⟩ := hx
    simp only [List.length_cons, List.flatten_cons, List.append_assoc, skipKV, hk, hv, ih]

theorem skipFields_flatten (d : Defs) (sk : Nat → List Event → Res (List Event)) (fs : List (Int × Val)) :
    ∀ {fl : List Field} {cs : List (List Event)},
      All2 (FieldChunk d fs fun t _ body => ∀ rest, sk (wireOf d t) (body ++ rest) = .ok rest) fl cs →
      ∀ (rest : List Event) (fuel : Nat), cs.flatten.length < fuel →
        skipFields sk fuel (cs.flatten ++ .fs :: .se :: rest) = .ok rest := by
  intro fl cs h
  induction h with
  | nil =>
    intro rest fuel hfuel
    cases fuel with
    | zero => cases hfuel
    | succ k => rfl
  | @cons f c fl cs hx _ ih =>
    intro rest fuel hfuel
    rcases hx with ⟨_, rfl⟩ | ⟨x, body, _, hsk, rfl⟩
    · exact ih rest fuel hfuel
    · obtain ⟨k, rfl⟩ : ∃ k, fuel = k + 1 := ⟨fuel - 1, by have := Nat.zero_lt_of_lt hfuel; omega⟩
      simp only [List.flatten_cons, List.cons_append, List.append_assoc, List.nil_append, skipFields, hsk]
      exact ih rest k (by simp only [List.flatten_cons, List.length_append, List.length_cons] at hfuel; omega)

/-- `Skip` consumes exactly the encoding of a well-typed value (of any type): this is why a field the
reader does not know can be skipped whatever it contains. -/
theorem skip_enc (d : Defs) : ∀ (n : Nat) (t : Ty) (v : Val) (es rest : List Event),
    WT d n t v → encV d n t v = .ok es → skip n (wireOf d t) (es ++ rest) = .ok rest := by
  intro n t v es rest hwt henc
  refine Res.of_exists_ok (enc_induct d (P := fun n t _ es => ∀ rest, skip n (wireOf d t) (es ++ rest) = .ok rest)
    ?_ ?_ ?_ ?_ n t v hwt) henc rest
  · intro n t rt v e hr h rest
    cases h <;> simp only [wireOf, hr] <;> rfl
  · intro n t rt a bg en w vs cs hr h hall rest
    rw [wireOf_seq hr h]
    cases h <;>
      simp only [List.cons_append, List.nil_append, List.append_assoc, skip_cons, Event.wire, if_true,
        skipN_flatten (skip n) _ hall]
  · intro n t kt vt kvs cs hres hall rest
    simp only [wireOf_map hres, List.cons_append, List.nil_append, List.append_assoc, skip_cons, Event.wire, if_true,
      skipKV_flatten (skip n) _ _ hall]
  · intro n t nm sd fs cs hres hsd hw hall rest
    simp only [wireOf_struct hres, List.cons_append, List.nil_append, List.append_assoc, skip_cons, Event.wire, if_true]
    exact skipFields_flatten d (skip n) fs hall rest _ (by simp)

/-- One unknown field at any point of the emitted field loop: it is skipped and the state of the loop
(the fields read so far) is unchanged. -/
theorem decFields_skip_unknown (dec : Ty → List Event → Res (Val × List Event))
    (skp : Nat → List Event → Res (List Event)) (sd : StructDef) (fuel : Nat)
    (nm : String) (tt : Nat) (uid : Int) (body rest : List Event) (acc : List (Int × Val))
    (hunk : sd.fields.find? (·.id = uid) = none)
    (hskip : skp tt (body ++ .fe :: rest) = .ok (.fe :: rest)) :
    decFields dec skp sd (fuel + 1) (.fb nm tt uid :: (body ++ .fe :: rest)) acc = decFields dec skp sd fuel rest acc := by
  rw [decFields]
  simp only [hunk, hskip]

/-! ### ill-formed values: unions whose set-field count is not one, at any depth

The predicates; what the emitted `Write` does on such values is proved in `FV.Proofs.ThriftBadUnion`. -/

/-- `v` (of declared type `t`, within depth `n`) CONTAINS A BAD UNION: at some position reachable through
the elements of lists / sets / maps and through struct fields that the emitted Write writes (listed and
`IsSet`), a union whose number of set fields is not one. -/
def HasBadUnion (d : Defs) : Nat → Ty → Val → Prop
  | 0, _, _ => False
  | n + 1, t, v =>
    match resolve d t, v with
    | .list a, .list vs => ∃ x ∈ vs, HasBadUnion d n a x
    | .set a, .list vs => ∃ x ∈ vs, HasBadUnion d n a x
    | .map kt vt, .map kvs => ∃ kv ∈ kvs, HasBadUnion d n kt kv.1 ∨ HasBadUnion d n vt kv.2
    | .struct nm, .struct fs =>
      ∃ sd, lookupStruct d nm = some sd ∧
        ((sd.kind = .union ∧ (sd.fields.filter (isSetIn sd fs)).length ≠ 1) ∨
         ∃ f ∈ sd.fields, ∃ x, lookupVal fs f.id = some x ∧ isSetVal sd f x = true ∧ HasBadUnion d n f.ty x)
    | _, _ => False

/-- Well-typed APART FROM the union counts (and canonical form): what the harness can build in the emitted
Go types when it sets none or several fields of a union. -/
def WTU (d : Defs) : Nat → Ty → Val → Prop
  | 0, _, _ => False
  | n + 1, t, v =>
    match resolve d t, v with
    | .bool, .bool _ => True
    | .byte, .int _ => True
    | .i16, .int _ => True
    | .i32, .int _ => True
    | .i64, .int _ => True
    | .enum _, .int _ => True
    | .double, .dbl _ => True
    | .string, .bytes _ => True
    | .binary, .bytes _ => True
    | .list a, .list vs => ∀ x ∈ vs, WTU d n a x
    | .set a, .list vs => ∀ x ∈ vs, WTU d n a x
    | .map kt vt, .map kvs => ∀ kv ∈ kvs, WTU d n kt kv.1 ∧ WTU d n vt kv.2
    | .struct nm, .struct fs =>
      ∃ sd, lookupStruct d nm = some sd ∧
        (∀ f ∈ sd.fields, f.req ≠ .optional → sd.kind ≠ .union → (lookupVal fs f.id).isSome) ∧
        (∀ f ∈ sd.fields, ∀ x, lookupVal fs f.id = some x → WTU d n f.ty x)
    | _, _ => False

/-- The two outcomes the emitted `Write` has on a value that is well-typed apart from its union counts. -/
def OkOrInvalid (r : Res (List Event)) : Prop := (∃ es, r = .ok es) ∨ r = .err .invalidData

/-! ### the predicates are decidable

Each is a recursion on the depth budget over lists and option lookups, so a statement about a concrete
table and value is settled by evaluation. -/

instance instDecidableWT (d : Defs) : ∀ (n : Nat) (t : Ty) (v : Val), Decidable (WT d n t v)
  | 0, _, _ => isFalse id
  | n + 1, t, v => by
    have := instDecidableWT d n
    unfold WT
    split <;> infer_instance

instance instDecidableWTU (d : Defs) : ∀ (n : Nat) (t : Ty) (v : Val), Decidable (WTU d n t v)
  | 0, _, _ => isFalse id
  | n + 1, t, v => by
    have := instDecidableWTU d n
    unfold WTU
    split <;> infer_instance

instance instDecidableHasBadUnion (d : Defs) : ∀ (n : Nat) (t : Ty) (v : Val), Decidable (HasBadUnion d n t v)
  | 0, _, _ => isFalse id
  | n + 1, t, v => by
    have := instDecidableHasBadUnion d n
    unfold HasBadUnion
    split <;> infer_instance

end FV.Thrift
