/-
C11: `(*Frugal).validate` against its declarative reading `Valid` (FV/Spec/Compile.lean), part by
part: `isValidType` is `Resolves`; the duplicate scans accept exactly the duplicate-free lists; the
bounded typedef walk is exact (pigeonhole over the visible typedefs); hence
`Valid ctx ↔ validateFile ctx = ok`, and an invalid file gets an ERROR, never a panic.
-/
import FV.Spec.Compile
import FV.Proofs.Compile
namespace FV.Compile

theorem declares_iff (f : File) (n : Name) : f.declares n = true ↔ f.Declares n := by
  unfold File.declares File.Declares
  simp only [Bool.or_eq_true, List.any_eq_true, decide_eq_true_eq, or_assoc]

theorem includeName_nodot {n : Name} (h : '.' ∉ n) : includeName n = [] ∧ paramName n = n := by
  unfold includeName paramName
  rw [contains_false_of_not_mem h]
  exact ⟨rfl, rfl⟩

theorem includeName_qualified (inc param : Name) (h : '.' ∉ inc) :
    includeName (inc ++ '.' :: param) = inc ∧ paramName (inc ++ '.' :: param) = param := by
  unfold includeName paramName
  have hc : (inc ++ '.' :: param).contains '.' = true := List.contains_iff_mem.mpr (by simp)
  have hp : ∀ c ∈ inc, decide (c ≠ '.') = true := fun c hc => decide_eq_true fun e => h (e ▸ hc)
  rw [hc, List.takeWhile_append_of_pos hp, List.dropWhile_append_of_pos hp]
  simp

theorem isValidType_named_iff (ctx : Ctx) {n : Name} (hb : n ∉ baseTypes) (hc : n ∉ containerNames) :
    isValidType ctx (.named n) = true ↔ NameResolves ctx n := by
  unfold isValidType NameResolves
  simp only [contains_false_of_not_mem hb, contains_false_of_not_mem hc, Bool.false_eq_true, if_false]
  constructor
  · intro h
    by_cases hd : '.' ∈ n
    · obtain ⟨inc, param, rfl, hni⟩ := List.eq_append_cons_of_mem hd
      simp only [includeName_qualified inc param hni] at h
      by_cases hi : inc = []
      · subst hi
        exact .inr (.inr ⟨param, rfl, (declares_iff _ _).mp h⟩)
      · rw [if_pos hi] at h
        cases hl : ctx.incs.lookup inc with
        | none => rw [hl] at h; cases h
        | some f => rw [hl] at h; exact .inr (.inl ⟨inc, param, f, rfl, hni, hi, hl, (declares_iff f param).mp h⟩)
    · simp only [includeName_nodot hd] at h
      exact .inl ⟨hd, (declares_iff _ _).mp h⟩
  · rintro (⟨hd, h⟩ | ⟨inc, param, f, rfl, hni, hi, hl, h⟩ | ⟨param, rfl, h⟩)
    · simp only [includeName_nodot hd]; exact (declares_iff _ _).mpr h
    · simp only [includeName_qualified inc param hni, if_pos hi, hl]; exact (declares_iff _ _).mpr h
    · obtain ⟨h1, h2⟩ := includeName_qualified [] param List.not_mem_nil
      rw [List.nil_append] at h1 h2
      rw [h1, h2]; exact (declares_iff _ _).mpr h

theorem isValidType_iff (ctx : Ctx) (t : Ty) : isValidType ctx t = true ↔ Resolves ctx t := by
  induction t with
  | list e ih => unfold isValidType Resolves; exact ih
  | set e ih => unfold isValidType Resolves; exact ih
  | map k v ihk ihv => unfold isValidType Resolves; rw [Bool.and_eq_true, ihk, ihv]
  | named n =>
    unfold Resolves
    by_cases hb : n ∈ baseTypes
    · simp [isValidType, hb]
    · by_cases hcn : n ∈ containerNames
      · simp [isValidType, hb, hcn]
      · simp only [hb, hcn, not_false_eq_true, true_and, false_or]
        exact isValidType_named_iff ctx hb hcn

/-! ### The duplicate scans

Each loop carries what it has `seen`; it accepts exactly when the keys still to come, put in front
of those seen, have no duplicate. -/

theorem lowerFirst_cons (c : Char) (cs : Name) : lowerFirst (c :: cs) = .ok (nameKey (c :: cs)) := rfl

theorem lowerFirst_nil : lowerFirst [] = .panic .index := rfl

theorem lookup_eq_none_iff (l : List (Name × Name)) (k : Name) : l.lookup k = none ↔ k ∉ l.map Prod.fst := by
  rw [List.lookup_eq_none_iff, List.mem_map]
  exact ⟨fun h ⟨p, hp, e⟩ => by simpa [e] using h p hp, fun h p hp => by simpa using fun e => h ⟨p, hp, e.symm⟩⟩

theorem dupLoop_ok_iff (dupE conflictE : VErr) (nameOf : α → Name) (inner : α → CRes Unit) :
    ∀ (xs : List α) (seen : List (Name × Name)), (seen.map Prod.fst).Nodup →
    (dupLoop dupE conflictE nameOf inner seen xs = .ok () ↔
      (∀ x ∈ xs, nameOf x ≠ [] ∧ inner x = .ok ()) ∧
      (xs.map (fun x => nameKey (nameOf x)) ++ seen.map Prod.fst).Nodup)
  | [], _, hs => by simp [dupLoop, hs]
  | x :: xs, seen, hs => by
    unfold dupLoop
    cases hn : nameOf x with
    | nil => rw [lowerFirst_nil]; exact ⟨nofun, fun h => absurd hn (h.1 x List.mem_cons_self).1⟩
    | cons c cs =>
      rw [lowerFirst_cons]
      dsimp only
      cases hk : seen.lookup (nameKey (c :: cs)) with
      | some prev =>
        have hm : nameKey (c :: cs) ∈ seen.map Prod.fst :=
          Classical.not_not.mp fun h => by rw [(lookup_eq_none_iff _ _).mpr h] at hk; cases hk
        refine ⟨by dsimp only; split <;> exact nofun, fun h => ?_⟩
        rw [List.map_cons, List.cons_append, List.nodup_cons, hn] at h
        exact absurd (List.mem_append_right _ hm) h.2.1
      | none =>
        have hni := (lookup_eq_none_iff _ _).mp hk
        have ih := dupLoop_ok_iff dupE conflictE nameOf inner xs ((nameKey (c :: cs), c :: cs) :: seen)
          (List.nodup_cons.mpr ⟨hni, hs⟩)
        cases hi : inner x with
        | ok u =>
          simp only [ih, List.map_cons, List.perm_middle.nodup_iff, List.cons_append, List.forall_mem_cons, hn, hi,
            ne_eq, reduceCtorEq, not_false_eq_true, true_and]
        | err _ | panic _ => exact ⟨nofun, fun h => by rw [(h.1 x List.mem_cons_self).2] at hi; cases hi⟩

theorem dupIds_ok_iff (e : VErr) : ∀ (is seen : List Int), seen.Nodup →
    (dupIds e seen is = .ok () ↔ (is ++ seen).Nodup)
  | [], _, hs => by simp [dupIds, hs]
  | i :: is, seen, hs => by
    unfold dupIds
    by_cases h : i ∈ seen
    · simp [h]
    · simp only [List.contains_iff_mem, h, if_false, dupIds_ok_iff e is _ (List.nodup_cons.mpr ⟨h, hs⟩),
        List.perm_middle.nodup_iff, List.cons_append]

theorem validateIncludes_ok_iff : ∀ (vs seen : List Name), seen.Nodup →
    (validateIncludes seen vs = .ok () ↔ (vs.map includeDeclName ++ seen).Nodup)
  | [], _, hs => by simp [validateIncludes, hs]
  | v :: vs, seen, hs => by
    unfold validateIncludes
    by_cases h : includeDeclName v ∈ seen
    · simp [h]
    · simp only [List.contains_iff_mem, h, if_false, validateIncludes_ok_iff vs _ (List.nodup_cons.mpr ⟨h, hs⟩),
        List.perm_middle.nodup_iff, List.cons_append, List.map_cons]

theorem validateStructLike_ok_iff (ctx : Ctx) (s : StructLike) : ∀ (fls : List Field) (seen : List Int), seen.Nodup →
    (validateStructLike ctx s seen fls = .ok () ↔
      (∀ fl ∈ fls, isValidType ctx fl.ty = true) ∧ (fls.map (·.id) ++ seen).Nodup)
  | [], _, hs => by simp [validateStructLike, hs]
  | fl :: fls, seen, hs => by
    unfold validateStructLike
    by_cases hv : isValidType ctx fl.ty = true
    · by_cases h : fl.id ∈ seen
      · simp [h, hv]
      · simp only [List.contains_iff_mem, h, hv, if_false, validateStructLike_ok_iff ctx s fls _ (List.nodup_cons.mpr ⟨h, hs⟩),
          List.perm_middle.nodup_iff, List.cons_append, List.map_cons, List.forall_mem_cons, true_and, Bool.not_true, Bool.false_eq_true]
    · simp [hv]

theorem hasEnumValue_iff (f : File) (e v : Name) : hasEnumValue f.enums e v = true ↔ f.HasEnumValue e v := by
  unfold hasEnumValue File.HasEnumValue
  simp only [List.any_eq_true, Bool.and_eq_true, decide_eq_true_eq, List.contains_iff_mem]

theorem hasConst_iff (f : File) (n : Name) : f.consts.any (·.name = n) = true ↔ f.HasConst n := by
  unfold File.HasConst
  simp only [List.any_eq_true, decide_eq_true_eq]

theorem validateConstant_ok_iff (ctx : Ctx) (c : Const) :
    validateConstant ctx c = .ok () ↔ Resolves ctx c.ty ∧ ∀ id, c.ref = some id → RefResolves ctx id := by
  unfold validateConstant
  rw [← isValidType_iff]
  by_cases hv : isValidType ctx c.ty = true
  case neg => simp [hv]
  simp only [hv, Bool.not_true, Bool.false_eq_true, if_false, true_and]
  cases c.ref with
  | none => simp
  | some id =>
    simp only [Option.some.injEq, forall_eq']
    unfold RefResolves
    -- the identifier has one, two, three or another number of `.`-separated parts
    rcases splitOn '.' id with _ | ⟨a, _ | ⟨b, _ | ⟨c, _ | ⟨d, rest⟩⟩⟩⟩
    · simp
    · simp only [guardV_ok_iff, hasConst_iff]
    · dsimp only
      by_cases he : hasEnumValue ctx.self.enums a b = true
      · simp only [he, if_true, true_iff]
        exact Or.inl ((hasEnumValue_iff _ _ _).mp he)
      · have hne : ¬ ctx.self.HasEnumValue a b := fun h => he ((hasEnumValue_iff _ _ _).mpr h)
        simp only [he, Bool.false_eq_true, if_false, hne, false_or]
        by_cases ha : a = []
        · simp only [ha, ne_eq, not_true_eq_false, if_false, guardV_ok_iff, hasConst_iff, false_and, true_and, false_or]
        · simp only [ha, ne_eq, not_false_eq_true, if_true, true_and, false_and, or_false]
          cases hl : ctx.incs.lookup a with
          | none => simp
          | some f => simp only [guardV_ok_iff, hasConst_iff, Option.some.injEq, exists_eq_left']
    · dsimp only
      cases hl : ctx.incs.lookup a with
      | none => simp
      | some f => simp only [guardV_ok_iff, hasEnumValue_iff, Option.some.injEq, exists_eq_left']
    · simp

theorem validateKind_all_iff (ctx : Ctx) :
    (validateKind ctx .struct = .ok () ∧ validateKind ctx .union = .ok () ∧ validateKind ctx .exception = .ok ()) ↔
    ∀ s ∈ ctx.self.structs, (∀ fl ∈ s.fields, Resolves ctx fl.ty) ∧ (s.fields.map (·.id)).Nodup := by
  unfold validateKind
  simp only [firstErr_ok_iff, List.mem_filter, decide_eq_true_eq, validateStructLike_ok_iff ctx _ _ [] List.nodup_nil,
    isValidType_iff, List.append_nil]
  constructor
  · rintro ⟨h1, h2, h3⟩ s hs
    cases hk : s.kind with
    | struct => exact h1 s ⟨hs, hk⟩
    | union => exact h2 s ⟨hs, hk⟩
    | exception => exact h3 s ⟨hs, hk⟩
  · intro h
    exact ⟨fun s hs => h s hs.1, fun s hs => h s hs.1, fun s hs => h s hs.1⟩

theorem validateScopes_ok_iff (ctx : Ctx) :
    validateScopes ctx = .ok () ↔ ∀ s ∈ ctx.self.scopes, ∀ o ∈ s.ops, Resolves ctx o.ty := by
  unfold validateScopes
  simp only [firstErr_ok_iff, guardV_ok_iff, isValidType_iff]

theorem validateServices_ok_iff (ctx : Ctx) :
    validateServices ctx = .ok () ↔ ∀ s ∈ ctx.self.services, ∀ m ∈ s.methods, ValidMethod ctx m := by
  have ret : ∀ m : Method, (match m.ret with
      | some t => guardV (isValidType ctx t) .retType
      | none => .ok ()) = CRes.ok () ↔ ∀ t, m.ret = some t → Resolves ctx t := by
    intro m
    cases m.ret with
    | none => exact ⟨fun _ _ => nofun, fun _ => rfl⟩
    | some t => simp only [guardV_ok_iff, isValidType_iff, Option.some.injEq, forall_eq']
  have oneway : ∀ m : Method, (if m.oneway then do
        guardV m.excs.isEmpty .onewayThrows
        guardV m.ret.isNone .onewayReturns
      else .ok ()) = CRes.ok () ↔ (m.oneway = true → m.excs = [] ∧ m.ret = none) := by
    intro m
    cases m.oneway with
    | false => exact ⟨fun _ => nofun, fun _ => rfl⟩
    | true => simp only [if_true, CRes.bind_unit_ok_iff, guardV_ok_iff, List.isEmpty_iff, Option.isNone_iff_eq_none, true_imp_iff]
  unfold validateServices validateServiceTypes validateServiceShape
  simp only [firstErr_ok_iff, CRes.bind_unit_ok_iff, guardV_ok_iff, isValidType_iff, oneway,
    dupIds_ok_iff _ _ [] List.nodup_nil, List.append_nil]
  exact forall₂_congr fun s _ =>
    ⟨fun ⟨h1, h2⟩ m hm => ⟨(ret m).mp (h1 m hm).1, (h1 m hm).2.1, (h1 m hm).2.2, (h2 m hm).1, (h2 m hm).2⟩,
     fun h => ⟨fun m hm => ⟨(ret m).mpr (h m hm).ret, (h m hm).args, (h m hm).excs⟩, fun m hm => ⟨(h m hm).oneway, (h m hm).argIds⟩⟩⟩

theorem validateNames_ok_iff (f : File) :
    validateNames f = .ok () ↔
      ((∀ s ∈ f.services, s.name ≠ []) ∧ (f.services.map (nameKey ·.name)).Nodup) ∧
      (∀ s ∈ f.services, (∀ m ∈ s.methods, m.name ≠ []) ∧ (s.methods.map (nameKey ·.name)).Nodup) ∧
      ((∀ s ∈ f.scopes, s.name ≠ []) ∧ (f.scopes.map (nameKey ·.name)).Nodup) ∧
      (∀ s ∈ f.scopes, (∀ o ∈ s.ops, o.name ≠ []) ∧ (s.ops.map (nameKey ·.name)).Nodup) := by
  unfold validateNames
  simp only [CRes.bind_unit_ok_iff, dupLoop_ok_iff _ _ _ _ _ [] List.nodup_nil, List.map_nil, List.append_nil, and_true,
    forall_and]
  constructor
  · rintro ⟨⟨⟨h1, h2⟩, h3⟩, ⟨h4, h5⟩, h6⟩
    exact ⟨⟨h1, h3⟩, h2, ⟨h4, h6⟩, h5⟩
  · rintro ⟨⟨h1, h3⟩, h2, ⟨h4, h6⟩, h5⟩
    exact ⟨⟨⟨h1, h2⟩, h3⟩, ⟨h4, h5⟩, h6⟩

theorem tdLookup_mem {tds : List Typedef} {n : Name} {t : Ty} (h : tdLookup tds n = some t) :
    ∃ td ∈ tds, td.ty = t := by
  induction tds with
  | nil => cases h
  | cons td tds ih =>
    unfold tdLookup at h
    cases hr : tdLookup tds n with
    | some t' =>
      rw [hr] at h
      cases h
      obtain ⟨td', hm, ht⟩ := ih hr
      exact ⟨td', List.mem_cons_of_mem _ hm, ht⟩
    | none =>
      rw [hr] at h
      by_cases hn : td.name = n
      · exact ⟨td, List.mem_cons_self, by simpa [hn] using h⟩
      · simp [hn] at h

/-- Every type a typedef hop can produce is the right-hand side of a typedef that the cycle
check of `validateTypedefs` starts a walk from. -/
theorem typedefTarget_mem {ctx : Ctx} {t t' : Ty} (h : typedefTarget ctx t = some t') :
    ∃ td ∈ allTypedefs ctx, td.ty = t' := by
  unfold typedefTarget at h
  unfold allTypedefs
  split at h
  · cases hl : ctx.incs.lookup (includeName t.name) with
    | none => rw [hl] at h; cases h
    | some f =>
      rw [hl] at h
      obtain ⟨td, hm, ht⟩ := tdLookup_mem h
      obtain ⟨l₁, l₂, hi, _⟩ := List.lookup_eq_some_iff.mp hl
      refine ⟨td, List.mem_append_right _ (List.mem_flatten.mpr ?_), ht⟩
      exact ⟨f.typedefs, List.mem_map.mpr ⟨(includeName t.name, f), hi ▸ List.mem_append_right _ List.mem_cons_self, rfl⟩, hm⟩
  · obtain ⟨td, hm, ht⟩ := tdLookup_mem h
    exact ⟨td, List.mem_append_left _ hm, ht⟩

theorem walkEnds_iff (ctx : Ctx) (n : Nat) (t : Ty) : walkEnds ctx n t = true ↔ ∃ d, d ≤ n ∧ StopsAfter ctx t d := by
  induction n generalizing t with
  | zero =>
    unfold walkEnds
    cases ht : typedefTarget ctx t with
    | none => exact ⟨fun _ => ⟨0, Nat.le_refl _, .stop ht⟩, fun _ => rfl⟩
    | some t' =>
      refine ⟨nofun, fun ⟨d, hd, h⟩ => ?_⟩
      cases h with
      | stop h0 => rw [ht] at h0; cases h0
      | hop _ _ => cases hd
  | succ n ih =>
    unfold walkEnds
    cases ht : typedefTarget ctx t with
    | none => exact ⟨fun _ => ⟨0, Nat.zero_le _, .stop ht⟩, fun _ => rfl⟩
    | some t' =>
      rw [ih]
      constructor
      · rintro ⟨d, hd, h⟩; exact ⟨d + 1, Nat.succ_le_succ hd, .hop ht h⟩
      · rintro ⟨d, hd, h⟩
        cases h with
        | stop h0 => rw [ht] at h0; cases h0
        | hop h1 h2 => rw [ht] at h1; cases h1; exact ⟨_, Nat.le_of_succ_le_succ hd, h2⟩

theorem underlying_of_stopsAfter {ctx : Ctx} {t : Ty} {d : Nat} (h : StopsAfter ctx t d) :
    ∀ fuel, d < fuel → ∃ r, underlying ctx fuel t = .ok r := by
  induction h with
  | @stop t ht =>
    intro fuel hf
    cases fuel with
    | zero => cases hf
    | succ k => exact ⟨t, by rw [underlying, ht]⟩
  | hop ht _ ih =>
    intro fuel hf
    cases fuel with
    | zero => cases hf
    | succ k => rw [underlying, ht]; exact ih k (Nat.lt_of_succ_lt_succ hf)

/-- A set of types closed under the typedef hop in which every member has a hop: resolution
from a member never stops (this is what a typedef cycle is, of any length). -/
theorem not_stopsAfter_of_closed {ctx : Ctx} (S : Ty → Prop)
    (hS : ∀ t, S t → ∃ t', typedefTarget ctx t = some t' ∧ S t') {t : Ty} {d : Nat} (h : StopsAfter ctx t d) : ¬ S t := by
  induction h with
  | stop ht => intro hs; obtain ⟨_, h1, _⟩ := hS _ hs; rw [ht] at h1; cases h1
  | hop ht _ ih => intro hs; obtain ⟨_, h1, h2⟩ := hS _ hs; rw [ht] at h1; cases h1; exact ih h2

theorem stopsAfter_unique (ctx : Ctx) {t : Ty} {a : Nat} (ha : StopsAfter ctx t a) :
    ∀ {b}, StopsAfter ctx t b → a = b := by
  induction ha with
  | stop ht =>
    intro b hb
    cases hb with
    | stop _ => rfl
    | hop ht' _ => rw [ht] at ht'; cases ht'
  | hop ht _ ih =>
    intro b hb
    cases hb with
    | stop ht' => rw [ht] at ht'; cases ht'
    | hop ht' hb' => rw [ht] at ht'; cases ht'; rw [ih hb']

/-- The targets visited by a resolution that stops after `d` hops: `d` different ones (their
remaining distances differ), each the right-hand side of a visible typedef. -/
theorem trail (ctx : Ctx) {t : Ty} {d : Nat} (h : StopsAfter ctx t d) :
    ∃ l : List Ty, l.length = d ∧ l.Nodup ∧
      ∀ u ∈ l, u ∈ (allTypedefs ctx).map (·.ty) ∧ ∃ k, k < d ∧ StopsAfter ctx u k := by
  induction h with
  | stop _ => exact ⟨[], rfl, List.nodup_nil, fun u hu => absurd hu List.not_mem_nil⟩
  | @hop t t' d ht hd ih =>
    obtain ⟨l, hl, hnd, hmem⟩ := ih
    refine ⟨t' :: l, by rw [List.length_cons, hl], List.nodup_cons.mpr ⟨fun hm => ?_, hnd⟩, fun u hu => ?_⟩
    · obtain ⟨_, k, hk, hs⟩ := hmem t' hm
      exact absurd (stopsAfter_unique ctx hd hs) (Nat.ne_of_gt hk)
    · rcases List.mem_cons.mp hu with rfl | hu
      · obtain ⟨td, hm, he⟩ := typedefTarget_mem ht
        exact ⟨List.mem_map.mpr ⟨td, hm, he⟩, d, Nat.lt_succ_self d, hd⟩
      · obtain ⟨h1, k, hk, hs⟩ := hmem u hu
        exact ⟨h1, k, Nat.lt_succ_of_lt hk, hs⟩

/-- Pigeonhole: a resolution that stops does so within as many hops as there are typedefs. -/
theorem stopsAfter_le_limit (ctx : Ctx) {t : Ty} {d : Nat} (h : StopsAfter ctx t d) : d ≤ typedefLimit ctx := by
  obtain ⟨l, hl, hnd, hmem⟩ := trail ctx h
  have := hnd.length_le_of_subset fun u hu => (hmem u hu).1
  rwa [hl, List.length_map] at this

theorem walkEnds_limit_iff (ctx : Ctx) (t : Ty) :
    walkEnds ctx (typedefLimit ctx) t = true ↔ ∃ d, StopsAfter ctx t d :=
  (walkEnds_iff ctx _ t).trans ⟨fun ⟨d, _, h⟩ => ⟨d, h⟩, fun ⟨d, h⟩ => ⟨d, stopsAfter_le_limit ctx h, h⟩⟩

theorem validateTypedefs_ok_iff (ctx : Ctx) :
    validateTypedefs ctx = .ok () ↔ (∀ td ∈ ctx.self.typedefs, Resolves ctx td.ty) ∧ TypedefsAcyclic ctx := by
  unfold validateTypedefs TypedefsAcyclic
  simp only [CRes.bind_unit_ok_iff, firstErr_ok_iff, guardV_ok_iff, isValidType_iff, walkEnds_limit_iff]

theorem NoPanic.validateTypedefs (ctx : Ctx) : NoPanic (validateTypedefs ctx) :=
  NoPanic.bind (NoPanic.firstErr fun _ _ => NoPanic.guardV _ _) fun _ => NoPanic.firstErr fun _ _ => NoPanic.guardV _ _

/-- With acyclic typedefs, resolution terminates for EVERY type with the stack the limit allows.
`+ 2`: one hop from `t` to the right-hand side of a typedef, from there at most `typedefLimit`
hops (`stopsAfter_le_limit`), and the call that finds no further typedef needs a unit of its own. -/
theorem underlying_ok_of_acyclic {ctx : Ctx} (h : TypedefsAcyclic ctx) (t : Ty) (fuel : Nat)
    (hf : typedefLimit ctx + 2 ≤ fuel) : ∃ r, underlying ctx fuel t = .ok r := by
  cases ht : typedefTarget ctx t with
  | none => exact underlying_of_stopsAfter (.stop ht) fuel (Nat.lt_of_lt_of_le (Nat.succ_pos _) hf)
  | some t' =>
    obtain ⟨td, hm, rfl⟩ := typedefTarget_mem ht
    obtain ⟨d, hd⟩ := h td hm
    exact underlying_of_stopsAfter (.hop ht hd) fuel
      (Nat.lt_of_lt_of_le (Nat.succ_lt_succ (Nat.lt_succ_of_le (stopsAfter_le_limit ctx hd))) hf)

/-- The parts of `validate`, read off its `do` chain. -/
structure FileChecks (ctx : Ctx) : Prop where
  names : validateNames ctx.self = .ok ()
  vendor : guardV (!ctx.self.vendorWild) .vendorWildcard = .ok ()
  includes : validateIncludes [] ctx.self.includes = .ok ()
  consts : firstErr (validateConstant ctx) ctx.self.consts = .ok ()
  typedefs : validateTypedefs ctx = .ok ()
  structs : validateKind ctx .struct = .ok ()
  unions : validateKind ctx .union = .ok ()
  exceptions : validateKind ctx .exception = .ok ()
  services : validateServices ctx = .ok ()
  scopes : validateScopes ctx = .ok ()

theorem validateFile_ok_iff (ctx : Ctx) : validateFile ctx = .ok () ↔ FileChecks ctx := by
  unfold validateFile
  simp only [CRes.bind_unit_ok_iff]
  exact ⟨fun ⟨h1, h2, h3, h4, h5, h6, h7, h8, h9, h10⟩ => ⟨h1, h2, h3, h4, h5, h6, h7, h8, h9, h10⟩,
    fun c => ⟨c.names, c.vendor, c.includes, c.consts, c.typedefs, c.structs, c.unions, c.exceptions, c.services, c.scopes⟩⟩

theorem valid_iff_validateFile (ctx : Ctx) : Valid ctx ↔ validateFile ctx = .ok () := by
  rw [validateFile_ok_iff]
  have hinc := validateIncludes_ok_iff ctx.self.includes [] List.nodup_nil
  rw [List.append_nil] at hinc
  constructor
  · intro v
    have hk := (validateKind_all_iff ctx).mpr v.structs
    exact {
      names := (validateNames_ok_iff ctx.self).mpr ⟨v.serviceNames, v.methodNames, v.scopeNames, v.opNames⟩
      vendor := guardV_ok_iff.mpr (by rw [v.vendor]; rfl)
      includes := hinc.mpr v.includes
      consts := firstErr_ok_iff.mpr fun c hc => (validateConstant_ok_iff ctx c).mpr (v.consts c hc)
      typedefs := (validateTypedefs_ok_iff ctx).mpr ⟨v.typedefs, v.acyclic⟩
      structs := hk.1
      unions := hk.2.1
      exceptions := hk.2.2
      services := (validateServices_ok_iff ctx).mpr v.methods
      scopes := (validateScopes_ok_iff ctx).mpr v.ops }
  · intro c
    obtain ⟨n1, n2, n3, n4⟩ := (validateNames_ok_iff ctx.self).mp c.names
    have ht := (validateTypedefs_ok_iff ctx).mp c.typedefs
    exact {
      serviceNames := n1, methodNames := n2, scopeNames := n3, opNames := n4
      vendor := by simpa using guardV_ok_iff.mp c.vendor
      includes := hinc.mp c.includes
      consts := fun k hk => (validateConstant_ok_iff ctx k).mp (firstErr_ok_iff.mp c.consts k hk)
      typedefs := ht.1
      acyclic := ht.2
      structs := (validateKind_all_iff ctx).mp ⟨c.structs, c.unions, c.exceptions⟩
      methods := (validateServices_ok_iff ctx).mp c.services
      ops := (validateScopes_ok_iff ctx).mp c.scopes }

instance (ctx : Ctx) : Decidable (Valid ctx) := decidable_of_iff _ (valid_iff_validateFile ctx).symm

theorem NoPanic.dupLoop {dupE conflictE : VErr} {nameOf : α → Name} {inner : α → CRes Unit} :
    ∀ (xs : List α) (seen : List (Name × Name)), (∀ x ∈ xs, nameOf x ≠ []) → (∀ x ∈ xs, NoPanic (inner x)) →
      NoPanic (dupLoop dupE conflictE nameOf inner seen xs)
  | [], _, _, _ => NoPanic.ok ()
  | x :: xs, seen, hne, hin => by
    unfold FV.Compile.dupLoop
    cases hn : nameOf x with
    | nil => exact absurd hn (hne x List.mem_cons_self)
    | cons c cs =>
      rw [lowerFirst_cons]
      dsimp only
      split
      · split <;> exact NoPanic.err _
      · cases hi : inner x with
        | ok u =>
          exact NoPanic.dupLoop xs _ (fun y hy => hne y (List.mem_cons_of_mem _ hy))
            (fun y hy => hin y (List.mem_cons_of_mem _ hy))
        | err e => exact NoPanic.err e
        | panic p => exact absurd hi (hin x List.mem_cons_self p)

theorem NoPanic.dupIds (e : VErr) : ∀ (is seen : List Int), NoPanic (dupIds e seen is)
  | [], _ => NoPanic.ok ()
  | i :: is, seen => by unfold FV.Compile.dupIds; split; exact NoPanic.err e; exact NoPanic.dupIds e is _

theorem NoPanic.validateIncludes : ∀ (vs seen : List Name), NoPanic (validateIncludes seen vs)
  | [], _ => NoPanic.ok ()
  | v :: vs, seen => by unfold FV.Compile.validateIncludes; split; exact NoPanic.err _; exact NoPanic.validateIncludes vs _

theorem NoPanic.validateStructLike (ctx : Ctx) (s : StructLike) : ∀ (fls : List Field) (seen : List Int),
    NoPanic (validateStructLike ctx s seen fls)
  | [], _ => NoPanic.ok ()
  | fl :: fls, seen => by
    unfold FV.Compile.validateStructLike
    split
    · exact NoPanic.err _
    · split
      · exact NoPanic.err _
      · exact NoPanic.validateStructLike ctx s fls _

theorem NoPanic.validateConstant (ctx : Ctx) (c : Const) : NoPanic (validateConstant ctx c) := by
  unfold FV.Compile.validateConstant
  split
  · exact .err _
  split
  · exact .ok _
  -- by the number of `.`-separated parts of the identifier: every leaf is `ok`, `err` or a `guardV`
  split
  · exact .guardV _ _
  · split
    · exact .ok _
    split
    · split
      · exact .err _
      · exact .guardV _ _
    · exact .guardV _ _
  · split
    · exact .err _
    · exact .guardV _ _
  · exact .err _

/-- Every service, method, scope and operation has a name (the grammar's `Identifier` is not empty). -/
def NamesNonEmpty (f : File) : Prop :=
  (∀ s ∈ f.services, s.name ≠ [] ∧ ∀ m ∈ s.methods, m.name ≠ []) ∧
  (∀ s ∈ f.scopes, s.name ≠ [] ∧ ∀ o ∈ s.ops, o.name ≠ [])

theorem NoPanic.validateKind (ctx : Ctx) (k : SKind) : NoPanic (validateKind ctx k) :=
  NoPanic.firstErr fun s _ => NoPanic.validateStructLike ctx s _ _

theorem NoPanic.validateFile (ctx : Ctx) (hn : NamesNonEmpty ctx.self) : NoPanic (validateFile ctx) := by
  unfold FV.Compile.validateFile
  refine NoPanic.bind ?_ fun _ => NoPanic.bind (NoPanic.guardV _ _) fun _ => NoPanic.bind (NoPanic.validateIncludes _ _) fun _ =>
    NoPanic.bind (NoPanic.firstErr fun c _ => NoPanic.validateConstant ctx c) fun _ =>
    NoPanic.bind (NoPanic.validateTypedefs ctx) fun _ => NoPanic.bind (NoPanic.validateKind ctx _) fun _ =>
    NoPanic.bind (NoPanic.validateKind ctx _) fun _ => NoPanic.bind (NoPanic.validateKind ctx _) fun _ => NoPanic.bind ?_ fun _ => ?_
  · unfold validateNames
    exact NoPanic.bind
      (NoPanic.dupLoop _ _ (fun s hs => (hn.1 s hs).1) fun s hs => NoPanic.dupLoop _ _ (hn.1 s hs).2 fun _ _ => NoPanic.ok ())
      fun _ => NoPanic.dupLoop _ _ (fun s hs => (hn.2 s hs).1) fun s hs => NoPanic.dupLoop _ _ (hn.2 s hs).2 fun _ _ => NoPanic.ok ()
  · unfold validateServices
    refine NoPanic.firstErr fun s _ => NoPanic.bind ?_ fun _ => ?_
    · unfold validateServiceTypes
      refine NoPanic.firstErr fun m _ => NoPanic.bind ?_ fun _ => NoPanic.bind (NoPanic.firstErr fun _ _ => NoPanic.guardV _ _) fun _ =>
        NoPanic.firstErr fun _ _ => NoPanic.guardV _ _
      split
      · exact NoPanic.guardV _ _
      · exact NoPanic.ok _
    · unfold validateServiceShape
      refine NoPanic.firstErr fun m _ => NoPanic.bind ?_ fun _ => NoPanic.dupIds _ _ _
      split
      · exact NoPanic.bind (NoPanic.guardV _ _) fun _ => NoPanic.guardV _ _
      · exact NoPanic.ok _
  · unfold validateScopes
    exact NoPanic.firstErr fun s _ => NoPanic.firstErr fun _ _ => NoPanic.guardV _ _

theorem goPath_ok_of_valid (ctx : Ctx) (h : Valid ctx) : goPath ctx = .ok () := by
  unfold goPath
  simp only [CRes.bind_unit_ok_iff, firstErr_ok_iff]
  refine ⟨fun n _ => ?_, fun t _ => ?_⟩
  · obtain ⟨r, hr⟩ := title_isOk n
    rw [hr]; rfl
  · obtain ⟨r, hr⟩ := underlying_ok_of_acyclic h.acyclic t _ (Nat.le_refl _)
    rw [hr]; rfl

end FV.Compile
