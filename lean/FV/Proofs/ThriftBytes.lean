/- What the byte-level round trips (Props/C02) need beyond the protocol lemmas: what a protocol erases the
emitted Read never looks at (`decV_erased`, from FV.Thrift.roundtrip and `decV_forget`), and the compact writer
succeeds on balanced calls (`cmpEnc_total`). -/
import FV.Proofs.Thrift
import FV.Proofs.ThriftForget
import FV.Proofs.BinaryProtocol
import FV.Proofs.CompactProtocol
namespace FV.Thrift

theorem forget_binErase (e : Event) : forget (binErase e) = forget e := by
  cases e <;> rfl

theorem forget_cmpErase (e : Event) : forget (cmpErase e) = forget e := by
  cases e
  case mb kt vt n => cases n <;> rfl
  all_goals rfl

theorem decV_of_forget_eq (d : Defs) (n : Nat) (t : Ty) (v : Val) (es es' : List Event)
    (hrt : decV d n t es = .ok (v, [])) (h : es'.map forget = es.map forget) :
    decV d n t es' = .ok (v, []) := by
  have h1 := decV_forget d n t es
  rw [hrt] at h1
  have h2 := decV_forget d n t es'
  rw [h, h1] at h2
  cases hd : decV d n t es' with
  | ok p =>
    obtain ⟨v', r'⟩ := p
    rw [hd] at h2
    simp only [mapR, Res.ok.injEq, Prod.mk.injEq, List.map_nil] at h2
    obtain ⟨rfl, hr⟩ := h2
    cases r' with
    | nil => rfl
    | cons a b => simp at hr
  | err e | panic p => rw [hd] at h2; cases h2

/-- `cmpWrite` succeeds on every call but a struct end, and only the struct brackets change the stack. -/
theorem cmpWrite_stack (w : CW) (e : Event) (h2 : ∀ nm, e ≠ .sb nm) (h3 : e ≠ .se) :
    ∃ b w1, cmpWrite w e = .ok (b, w1) ∧ w1.stack = w.stack := by
  cases e
  case sb nm => exact absurd rfl (h2 nm)
  case se => exact absurd rfl h3
  -- two forms each: a bool field's header is held back; an empty map; a bool that carries a held header
  case fb | mb => rw [cmpWrite]; split <;> exact ⟨_, _, rfl, rfl⟩
  case bool => rw [cmpWrite]; cases w.pend <;> exact ⟨_, _, rfl, rfl⟩
  all_goals exact ⟨_, _, rfl, rfl⟩

theorem cmpEnc_total : ∀ (es : List Event) (w : CW), cmpBalanced w.stack.length es = true →
    ∃ bs w', cmpEnc w es = .ok (bs, w') := by
  intro es
  induction es with
  | nil => intro w _; exact ⟨[], w, rfl⟩
  | cons e es ih =>
    intro w hb
    have step : ∀ (b : Bytes) (w1 : CW), cmpWrite w e = .ok (b, w1) → cmpBalanced w1.stack.length es = true →
        ∃ bs w', cmpEnc w (e :: es) = .ok (bs, w') := by
      intro b w1 hw hb1
      obtain ⟨bs, w', h⟩ := ih w1 hb1
      exact ⟨b ++ bs, w', by simp only [cmpEnc, hw, h]⟩
    by_cases hsb : ∃ nm, e = .sb nm
    · obtain ⟨nm, rfl⟩ := hsb
      exact step _ _ rfl (by simpa [cmpBalanced] using hb)
    by_cases hse : e = .se
    · subst hse
      cases hs : w.stack with
      | nil => rw [hs] at hb; simp [cmpBalanced] at hb
      | cons l s =>
        rw [hs] at hb
        exact step [] { w with stack := s, last := l } (by simp only [cmpWrite, hs]) (by simpa [cmpBalanced] using hb)
    · -- no struct bracket: the write succeeds and the depth stays
      have hsb : ∀ nm, e ≠ .sb nm := fun nm h => hsb ⟨nm, h⟩
      obtain ⟨b, w1, hw, hs⟩ := cmpWrite_stack w e hsb hse
      exact step b w1 hw (by rw [hs, ← cmpBalanced_cons_other _ e es hsb hse]; exact hb)

/-- What the emitted `Write` wrote for a well-typed value is still read to the value after an erasure that stays
within what `forget` erases (`binErase`, `cmpErase`: what a byte protocol does not carry). -/
theorem decV_erased (d : Defs) (n : Nat) (t : Ty) (v : Val) (es : List Event) (erase : Event → Event)
    (herase : ∀ e, forget (erase e) = forget e) (hwt : WT d n t v) (henc : encV d n t v = .ok es) :
    decV d n t (es.map erase) = .ok (v, []) := by
  have hrt := List.append_nil es ▸ roundtrip d n t v es [] hwt henc
  refine decV_of_forget_eq d n t v es _ hrt ?_
  rw [List.map_map]
  exact List.map_congr_left fun e _ => herase e

end FV.Thrift
