/-
Lemmas about the PEG interpreter `FV.Peg`: its equations, fuel monotonicity, and the kit the grammar
proofs are written in: `ParsesTo` / `FailsOn` (what an expression does on a text from some fuel on),
one lemma per expression constructor, runs of sequences, choices and repetitions, and the accounting
of their fuel bounds.
-/
import FV.Model.Peg

namespace FV.Peg

variable (g : Grammar) (f : Nat) (inp : List Char)

theorem pExpr_zero (e : Expr) : pExpr g 0 e inp = .outOfFuel := by rfl
theorem pSeq_zero (es : List Expr) : pSeq g 0 es inp = .outOfFuel := by rfl
theorem pChoice_zero (es : List Expr) : pChoice g 0 es inp = .outOfFuel := by rfl
theorem pStar_zero (e : Expr) : pStar g 0 e inp = .outOfFuel := by rfl

theorem pExpr_any : pExpr g (f+1) .any inp = (match inp with | c :: r => .ok (.text [c]) r | [] => .fail) := by
  rfl
theorem pExpr_lit (s ic) : pExpr g (f+1) (.lit s ic) inp =
    (match matchLit ic s inp with | some r => .ok (.text (consumed inp r)) r | none => .fail) := by
  rfl
theorem pExpr_cls (cs rs inv ic) : pExpr g (f+1) (.cls cs rs inv ic) inp =
    (match inp with | c :: r => if clsMatches cs rs inv ic c then .ok (.text [c]) r else .fail | [] => .fail) := by
  rfl
theorem pExpr_ref (n) : pExpr g (f+1) (.ref n) inp =
    (match g.lookup n with | some e' => pExpr g f e' inp | none => .fail) := by
  rfl
theorem pExpr_lab (n e') : pExpr g (f+1) (.lab n e') inp =
    (match pExpr g f e' inp with | .ok t r => .ok (.lab n t) r | .fail => .fail | .outOfFuel => .outOfFuel) := by
  rfl
theorem pExpr_act (tag e') : pExpr g (f+1) (.act tag e') inp =
    (match pExpr g f e' inp with | .ok t r => .ok (.act tag (consumed inp r) t) r | .fail => .fail | .outOfFuel => .outOfFuel) := by
  rfl
theorem pExpr_opt (e') : pExpr g (f+1) (.opt e') inp =
    (match pExpr g f e' inp with | .ok t r => .ok t r | .fail => .ok .nil inp | .outOfFuel => .outOfFuel) := by
  rfl
theorem pExpr_andP (e') : pExpr g (f+1) (.andP e') inp =
    (match pExpr g f e' inp with | .ok _ _ => .ok .nil inp | .fail => .fail | .outOfFuel => .outOfFuel) := by
  rfl
theorem pExpr_notP (e') : pExpr g (f+1) (.notP e') inp =
    (match pExpr g f e' inp with | .ok _ _ => .fail | .fail => .ok .nil inp | .outOfFuel => .outOfFuel) := by
  rfl
theorem pExpr_seq (es) : pExpr g (f+1) (.seq es) inp =
    (match pSeq g f es inp with | .ok ts r => .ok (.seq ts) r | .fail => .fail | .outOfFuel => .outOfFuel) := by
  rfl
theorem pExpr_choice (es) : pExpr g (f+1) (.choice es) inp = pChoice g f es inp := by
  rfl
theorem pExpr_star (e') : pExpr g (f+1) (.star e') inp =
    (match pStar g f e' inp with | .ok ts r => .ok (.seq ts) r | .fail => .fail | .outOfFuel => .outOfFuel) := by
  rfl
theorem pExpr_plus (e') : pExpr g (f+1) (.plus e') inp =
    (match pExpr g f e' inp with
      | .ok t r => (match pStar g f e' r with
        | .ok ts r' => .ok (.seq (t :: ts)) r'
        | .fail => .fail
        | .outOfFuel => .outOfFuel)
      | .fail => .fail
      | .outOfFuel => .outOfFuel) := by
  rfl
theorem pSeq_nil : pSeq g (f+1) [] inp = .ok [] inp := by rfl
theorem pSeq_cons (e es) : pSeq g (f+1) (e :: es) inp =
    (match pExpr g f e inp with
      | .ok t r => (match pSeq g f es r with
        | .ok ts r' => .ok (t :: ts) r'
        | .fail => .fail
        | .outOfFuel => .outOfFuel)
      | .fail => .fail
      | .outOfFuel => .outOfFuel) := by
  rfl
theorem pChoice_nil : pChoice g (f+1) [] inp = .fail := by rfl
theorem pChoice_cons (e es) : pChoice g (f+1) (e :: es) inp =
    (match pExpr g f e inp with
      | .ok t r => .ok t r
      | .fail => pChoice g f es inp
      | .outOfFuel => .outOfFuel) := by
  rfl
theorem pStar_succ (e) : pStar g (f+1) e inp =
    (match pExpr g f e inp with
      | .ok t r => (match pStar g f e r with
        | .ok ts r' => .ok (t :: ts) r'
        | .fail => .fail
        | .outOfFuel => .outOfFuel)
      | .fail => .ok [] inp
      | .outOfFuel => .outOfFuel) := by
  rfl

/-- One more unit of fuel never changes a result that is not `outOfFuel` (all four functions).
Every step is `outOfFuel` when the sub-result it inspects is, so a step that is not `outOfFuel`
has a sub-result the induction hypothesis applies to. -/
theorem mono_step (g : Grammar) : ∀ f : Nat,
    (∀ e inp, pExpr g f e inp ≠ .outOfFuel → pExpr g (f+1) e inp = pExpr g f e inp) ∧
    (∀ es inp, pSeq g f es inp ≠ .outOfFuel → pSeq g (f+1) es inp = pSeq g f es inp) ∧
    (∀ es inp, pChoice g f es inp ≠ .outOfFuel → pChoice g (f+1) es inp = pChoice g f es inp) ∧
    (∀ e inp, pStar g f e inp ≠ .outOfFuel → pStar g (f+1) e inp = pStar g f e inp) := by
  intro f
  induction f with
  | zero => exact ⟨fun _ _ h => absurd rfl h, fun _ _ h => absurd rfl h, fun _ _ h => absurd rfl h, fun _ _ h => absurd rfl h⟩
  | succ f ih =>
    obtain ⟨ihE, ihS, ihC, ihR⟩ := ih
    refine ⟨?_, ?_, ?_, ?_⟩
    · intro e inp h
      cases e with
      | any => rfl
      | lit s ic => rfl
      | cls a b c d => rfl
      | ref n =>
        rw [pExpr_ref] at h ⊢; rw [pExpr_ref]
        cases hl : List.lookup n g with
        | none => rfl
        | some e' => rw [hl] at h; exact ihE e' inp h
      | lab n e' => rw [pExpr_lab] at h ⊢; rw [pExpr_lab, ihE e' inp fun e => h (by rw [e])]
      | act n e' => rw [pExpr_act] at h ⊢; rw [pExpr_act, ihE e' inp fun e => h (by rw [e])]
      | opt e' => rw [pExpr_opt] at h ⊢; rw [pExpr_opt, ihE e' inp fun e => h (by rw [e])]
      | andP e' => rw [pExpr_andP] at h ⊢; rw [pExpr_andP, ihE e' inp fun e => h (by rw [e])]
      | notP e' => rw [pExpr_notP] at h ⊢; rw [pExpr_notP, ihE e' inp fun e => h (by rw [e])]
      | seq es => rw [pExpr_seq] at h ⊢; rw [pExpr_seq, ihS es inp fun e => h (by rw [e])]
      | choice es => exact ihC es inp h
      | star e' => rw [pExpr_star] at h ⊢; rw [pExpr_star, ihR e' inp fun e => h (by rw [e])]
      | plus e' =>
        rw [pExpr_plus] at h ⊢; rw [pExpr_plus, ihE e' inp fun e => h (by rw [e])]
        cases hr : pExpr g f e' inp with
        | ok t r => simp only [hr] at h ⊢; rw [ihR e' r fun e => h (by rw [e])]
        | _ => rfl
    · intro es inp h
      cases es with
      | nil => rfl
      | cons e es =>
        rw [pSeq_cons] at h ⊢; rw [pSeq_cons, ihE e inp fun e => h (by rw [e])]
        cases hr : pExpr g f e inp with
        | ok t r => simp only [hr] at h ⊢; rw [ihS es r fun e => h (by rw [e])]
        | _ => rfl
    · intro es inp h
      cases es with
      | nil => rfl
      | cons e es =>
        rw [pChoice_cons] at h ⊢; rw [pChoice_cons, ihE e inp fun e => h (by rw [e])]
        cases hr : pExpr g f e inp with
        | fail => simp only [hr] at h ⊢; exact ihC es inp h
        | _ => rfl
    · intro e inp h
      rw [pStar_succ] at h ⊢; rw [pStar_succ, ihE e inp fun e => h (by rw [e])]
      cases hr : pExpr g f e inp with
      | ok t r => simp only [hr] at h ⊢; rw [ihR e r fun e => h (by rw [e])]
      | _ => rfl

theorem mono_add {α : Type} {p : Nat → PRes α} (step : ∀ f, p f ≠ .outOfFuel → p (f + 1) = p f) (f k : Nat)
    (h : p f ≠ .outOfFuel) : p (f + k) = p f := by
  induction k with
  | zero => rfl
  | succ k ih => rw [← Nat.add_assoc, step (f + k) (by rw [ih]; exact h), ih]

theorem pExpr_mono (g : Grammar) (f k : Nat) (e : Expr) (inp : List Char) (h : pExpr g f e inp ≠ .outOfFuel) :
    pExpr g (f + k) e inp = pExpr g f e inp :=
  mono_add (fun f => (mono_step g f).1 e inp) f k h

theorem pStar_mono (g : Grammar) (f k : Nat) (e : Expr) (inp : List Char) (h : pStar g f e inp ≠ .outOfFuel) :
    pStar g (f + k) e inp = pStar g f e inp :=
  mono_add (fun f => (mono_step g f).2.2.2 e inp) f k h

theorem pSeq_mono (g : Grammar) (f k : Nat) (es : List Expr) (inp : List Char) (h : pSeq g f es inp ≠ .outOfFuel) :
    pSeq g (f + k) es inp = pSeq g f es inp :=
  mono_add (fun f => (mono_step g f).2.1 es inp) f k h

theorem pExpr_mono_le (g : Grammar) {f f' : Nat} (hle : f ≤ f') (e : Expr) (inp : List Char)
    (h : pExpr g f e inp ≠ .outOfFuel) : pExpr g f' e inp = pExpr g f e inp := by
  obtain ⟨k, rfl⟩ := Nat.exists_eq_add_of_le hle
  exact pExpr_mono g f k e inp h

theorem consumed_append (s rest : List Char) : consumed (s ++ rest) rest = s := by
  simp [consumed]

theorem consumed_of_eq (inp s rest : List Char) (h : inp = s ++ rest) : consumed inp rest = s := by
  subst h; exact consumed_append s rest

theorem consumed_cons (c : Char) (r : List Char) : consumed (c :: r) r = [c] :=
  consumed_append [c] r

theorem consumed_self (r : List Char) : consumed r r = [] := by
  simpa using consumed_append [] r

/-! ### sub-parsers that consume exactly: combinators

`ParsesTo g e inp t rest k`: from fuel `k` on, `e` on `inp` yields the value `t` and leaves `rest`.
`FailsOn g e inp k`: from fuel `k` on, `e` fails on `inp`.  The lemmas below compose such facts
along the expression constructors.

Where the numbers in the bounds come from (here and in every `Peg…` module).  Fuel bounds the
recursion depth, so each constructor adds its own depth to the bound of what is under it:
`lit`, `cls`, `any` need 1; `ref`, `lab`, `act`, `opt`, `notP`, `andP` add 1; a `seq` or `choice` of
`n` elements that all hold from `k` on needs `n + k + 2` (one call per element down the list);
`star` and `plus` need `ts.length + k + 2`, one unit per item.  So a repetition whose items grow with
the text costs items + item bound, which is why a gap `g` shows as `2 * g.length` and a name as
`s.length`.  The bound stated for a grammar rule is `w + c`: `w` the sum of such text-dependent
parts, and `c` ANY numeral that dominates the overheads of the rule's constructors plus the constants
of the rules it refers to.  The constants are rounded up (10, 70, 110, …), not tight, and carry no
other meaning.  Each is used up in one place: the `.mono (by decide / omega / fuel_le)` that ends the
rule's lemma, or the `c1 ≤ c` side condition (`by decide`) of `consA` / `consC` / `cons_le` where a
caller puts the rule into a sequence; a constant chosen too small makes exactly that step fail. -/

def ParsesTo (g : Grammar) (e : Expr) (inp : List Char) (t : Tree) (rest : List Char) (k : Nat) : Prop :=
  ∀ F, k ≤ F → pExpr g F e inp = .ok t rest

def FailsOn (g : Grammar) (e : Expr) (inp : List Char) (k : Nat) : Prop :=
  ∀ F, k ≤ F → pExpr g F e inp = .fail

theorem ParsesTo.mono {g e inp t rest k k'} (h : ParsesTo g e inp t rest k) (hk : k ≤ k') : ParsesTo g e inp t rest k' :=
  fun F hF => h F (Nat.le_trans hk hF)

theorem FailsOn.mono {g e inp k k'} (h : FailsOn g e inp k) (hk : k ≤ k') : FailsOn g e inp k' :=
  fun F hF => h F (Nat.le_trans hk hF)

/-- The interpreter's equations speak of fuel `F + 1`: a fact about every `F + 1` with `k ≤ F` is a
fact from fuel `k + 1` on. -/
theorem from_succ {P : Nat → Prop} {k : Nat} (h : ∀ F, k ≤ F → P (F + 1)) : ∀ F, k + 1 ≤ F → P F
  | F + 1, hF => h F (Nat.le_of_succ_le_succ hF)

/-- Closes a comparison of fuel bounds in which lengths of literal lists (of sub-expressions, of trees) occur. -/
macro "fuel_le" : tactic => `(tactic| ((try simp only [List.length_cons, List.length_nil, List.length_map, List.length_append]); omega))

section comb
variable {g : Grammar}

theorem ParsesTo.ref {n e inp t rest k} (hl : g.lookup n = some e) (h : ParsesTo g e inp t rest k) :
    ParsesTo g (.ref n) inp t rest (k + 1) :=
  from_succ fun F hF => by rw [pExpr_ref, hl]; exact h F hF

theorem FailsOn.ref {n e inp k} (hl : g.lookup n = some e) (h : FailsOn g e inp k) : FailsOn g (.ref n) inp (k + 1) :=
  from_succ fun F hF => by rw [pExpr_ref, hl]; exact h F hF

theorem ParsesTo.lab {n e inp t rest k} (h : ParsesTo g e inp t rest k) : ParsesTo g (.lab n e) inp (.lab n t) rest (k + 1) :=
  from_succ fun F hF => by rw [pExpr_lab, h F hF]

/-- `ParsesTo.lab` with the bound read as `w + c` (see the additive accounting of sequences below). -/
theorem ParsesTo.labA {n e inp t rest w c} (h : ParsesTo g e inp t rest (w + c)) : ParsesTo g (.lab n e) inp (.lab n t) rest (w + (c + 1)) :=
  ParsesTo.lab h

theorem FailsOn.lab {n e inp k} (h : FailsOn g e inp k) : FailsOn g (.lab n e) inp (k + 1) :=
  from_succ fun F hF => by rw [pExpr_lab, h F hF]

theorem ParsesTo.act {tag e inp t rest k} (h : ParsesTo g e inp t rest k) :
    ParsesTo g (.act tag e) inp (.act tag (consumed inp rest) t) rest (k + 1) :=
  from_succ fun F hF => by rw [pExpr_act, h F hF]

theorem FailsOn.act {tag e inp k} (h : FailsOn g e inp k) : FailsOn g (.act tag e) inp (k + 1) :=
  from_succ fun F hF => by rw [pExpr_act, h F hF]

theorem ParsesTo.opt_some {e inp t rest k} (h : ParsesTo g e inp t rest k) : ParsesTo g (.opt e) inp t rest (k + 1) :=
  from_succ fun F hF => by rw [pExpr_opt, h F hF]

theorem ParsesTo.opt_none {e inp k} (h : FailsOn g e inp k) : ParsesTo g (.opt e) inp .nil inp (k + 1) :=
  from_succ fun F hF => by rw [pExpr_opt, h F hF]

theorem ParsesTo.notP {e inp k} (h : FailsOn g e inp k) : ParsesTo g (.notP e) inp .nil inp (k + 1) :=
  from_succ fun F hF => by rw [pExpr_notP, h F hF]

theorem FailsOn.notP {e inp t rest k} (h : ParsesTo g e inp t rest k) : FailsOn g (.notP e) inp (k + 1) :=
  from_succ fun F hF => by rw [pExpr_notP, h F hF]

theorem ParsesTo.andP {e inp t rest k} (h : ParsesTo g e inp t rest k) : ParsesTo g (.andP e) inp .nil inp (k + 1) :=
  from_succ fun F hF => by rw [pExpr_andP, h F hF]

theorem ParsesTo.lit {s ic inp r} (h : matchLit ic s inp = some r) : ParsesTo g (.lit s ic) inp (.text (consumed inp r)) r 1 :=
  from_succ fun F _ => by rw [pExpr_lit, h]

theorem FailsOn.lit {s ic inp} (h : matchLit ic s inp = none) : FailsOn g (.lit s ic) inp 1 :=
  from_succ fun F _ => by rw [pExpr_lit, h]

theorem matchLit_cons (w c : Char) (ws cs : List Char) :
    matchLit false (w :: ws) (c :: cs) = if c = w then matchLit false ws cs else none := rfl

theorem matchLit_append (s rest : List Char) : matchLit false s (s ++ rest) = some rest := by
  induction s with
  | nil => rfl
  | cons c t ih => rw [List.cons_append, matchLit_cons, if_pos rfl, ih]

theorem ParsesTo.lit_append (s rest : List Char) : ParsesTo g (.lit s false) (s ++ rest) (.text s) rest 1 := by
  have := ParsesTo.lit (g := g) (matchLit_append s rest)
  rwa [consumed_append] at this

theorem matchLit_head {w : Char} {ws x : List Char} (h : ∀ c r, x = c :: r → c ≠ w) : matchLit false (w :: ws) x = none := by
  cases x with
  | nil => rfl
  | cons c r => rw [matchLit_cons, if_neg (h c r rfl)]

theorem matchLit_append_none : ∀ {a : List Char} (b : List Char) {x : List Char}, matchLit false a x = none → matchLit false (a ++ b) x = none
  | _ :: _, _, [], _ => rfl
  | w :: ws, b, c :: cs, h => by
    rw [List.cons_append, matchLit_cons] at *
    split at h
    · rw [if_pos ‹_›]; exact matchLit_append_none b h
    · rw [if_neg ‹_›]

theorem FailsOn.lit_head {w : Char} {ws x : List Char} (h : ∀ c r, x = c :: r → c ≠ w) : FailsOn g (.lit (w :: ws) false) x 1 :=
  FailsOn.lit (matchLit_head h)

theorem ParsesTo.cls {cs rs inv ic c r} (h : clsMatches cs rs inv ic c = true) :
    ParsesTo g (.cls cs rs inv ic) (c :: r) (.text [c]) r 1 :=
  from_succ fun F _ => by rw [pExpr_cls]; simp [h]

theorem FailsOn.cls {cs rs inv ic c r} (h : clsMatches cs rs inv ic c = false) : FailsOn g (.cls cs rs inv ic) (c :: r) 1 :=
  from_succ fun F _ => by rw [pExpr_cls]; simp [h]

theorem ParsesTo.any {c r} : ParsesTo g .any (c :: r) (.text [c]) r 1 :=
  from_succ fun F _ => by rw [pExpr_any]

theorem FailsOn.any_nil : FailsOn g .any [] 1 :=
  from_succ fun F _ => by rw [pExpr_any]

/-- The elements of a sequence parse one after the other (common fuel bound `k`). -/
def SeqRun (g : Grammar) (k : Nat) : List Expr → List Char → List Tree → List Char → Prop
  | [], inp, ts, rest => ts = [] ∧ rest = inp
  | e :: es, inp, ts, rest => ∃ t mid ts', ts = t :: ts' ∧ ParsesTo g e inp t mid k ∧ SeqRun g k es mid ts' rest

theorem SeqRun.pSeq {k} : ∀ {es inp ts rest}, SeqRun g k es inp ts rest → ∀ F, es.length + k + 1 ≤ F → pSeq g F es inp = .ok ts rest
  | [], _, _, _, ⟨rfl, rfl⟩ => from_succ fun _ _ => rfl
  | _ :: _, _, _, _, ⟨_, _, _, rfl, h1, h2⟩ => from_succ fun F hF => by
    simp only [List.length_cons] at hF
    simp only [pSeq_cons, h1 F (by omega), h2.pSeq F (by omega)]

theorem ParsesTo.seq {k es inp ts rest} (h : SeqRun g k es inp ts rest) : ParsesTo g (.seq es) inp (.seq ts) rest (es.length + k + 2) :=
  from_succ fun F hF => by rw [pExpr_seq, h.pSeq F hF]

/-- A sequence fails: some element fails after the earlier ones parsed. -/
def SeqFail (g : Grammar) (k : Nat) : List Expr → List Char → Prop
  | [], _ => False
  | e :: es, inp => FailsOn g e inp k ∨ ∃ t mid, ParsesTo g e inp t mid k ∧ SeqFail g k es mid

theorem SeqFail.head {k e es inp} (h : FailsOn g e inp k) : SeqFail g k (e :: es) inp := Or.inl h
theorem SeqFail.tail {k e es inp t mid} (h1 : ParsesTo g e inp t mid k) (h2 : SeqFail g k es mid) : SeqFail g k (e :: es) inp :=
  Or.inr ⟨t, mid, h1, h2⟩

theorem SeqFail.pSeq {k} : ∀ {es inp}, SeqFail g k es inp → ∀ F, es.length + k + 1 ≤ F → pSeq g F es inp = .fail
  | _ :: _, _, .inl h => from_succ fun F hF => by
    simp only [List.length_cons] at hF
    rw [pSeq_cons, h F (by omega)]
  | _ :: _, _, .inr ⟨_, _, h1, h2⟩ => from_succ fun F hF => by
    simp only [List.length_cons] at hF
    simp only [pSeq_cons, h1 F (by omega), h2.pSeq F (by omega)]

theorem FailsOn.seq {k es inp} (h : SeqFail g k es inp) : FailsOn g (.seq es) inp (es.length + k + 2) :=
  from_succ fun F hF => by rw [pExpr_seq, h.pSeq F hF]

/-- Ordered choice: the alternatives before the chosen one fail. -/
def ChoiceRun (g : Grammar) (k : Nat) : List Expr → List Char → Tree → List Char → Prop
  | [], _, _, _ => False
  | e :: es, inp, t, rest => ParsesTo g e inp t rest k ∨ (FailsOn g e inp k ∧ ChoiceRun g k es inp t rest)

theorem ChoiceRun.head {k e es inp t rest} (h : ParsesTo g e inp t rest k) : ChoiceRun g k (e :: es) inp t rest := Or.inl h
theorem ChoiceRun.tail {k e es inp t rest} (h1 : FailsOn g e inp k) (h2 : ChoiceRun g k es inp t rest) :
    ChoiceRun g k (e :: es) inp t rest := Or.inr ⟨h1, h2⟩

theorem ChoiceRun.pChoice {k} : ∀ {es inp t rest}, ChoiceRun g k es inp t rest → ∀ F, es.length + k + 1 ≤ F → pChoice g F es inp = .ok t rest
  | _ :: _, _, _, _, .inl h => from_succ fun F hF => by
    simp only [List.length_cons] at hF
    rw [pChoice_cons, h F (by omega)]
  | _ :: _, _, _, _, .inr ⟨h1, h2⟩ => from_succ fun F hF => by
    simp only [List.length_cons] at hF
    simp only [pChoice_cons, h1 F (by omega), h2.pChoice F (by omega)]

theorem ParsesTo.choice {k es inp t rest} (h : ChoiceRun g k es inp t rest) : ParsesTo g (.choice es) inp t rest (es.length + k + 2) :=
  from_succ fun F hF => by rw [pExpr_choice]; exact h.pChoice F hF

/-- Every alternative of a choice fails, alternative by alternative (the hypothesis of `FailsOn.choice`). -/
theorem allFail_nil {k inp} : ∀ e ∈ ([] : List Expr), FailsOn g e inp k := nofun
theorem allFail_cons {k e es inp} (h1 : FailsOn g e inp k) (h2 : ∀ x ∈ es, FailsOn g x inp k) : ∀ x ∈ e :: es, FailsOn g x inp k :=
  List.forall_mem_cons.2 ⟨h1, h2⟩

theorem pChoice_allFail {k} : ∀ {es inp}, (∀ e ∈ es, FailsOn g e inp k) → ∀ F, es.length + k + 1 ≤ F → pChoice g F es inp = .fail
  | [], _, _ => from_succ fun _ _ => rfl
  | e :: es, _, h => from_succ fun F hF => by
    simp only [List.length_cons] at hF
    simp only [pChoice_cons, (List.forall_mem_cons.1 h).1 F (by omega)]
    exact pChoice_allFail (List.forall_mem_cons.1 h).2 F (by omega)

theorem FailsOn.choice {k es inp} (h : ∀ e ∈ es, FailsOn g e inp k) : FailsOn g (.choice es) inp (es.length + k + 2) :=
  from_succ fun F hF => by rw [pExpr_choice]; exact pChoice_allFail h F hF

theorem FailsOn.lits {kws : List (List Char)} {x : List Char} (h : ∀ kw ∈ kws, matchLit false kw x = none) :
    FailsOn g (.choice (kws.map fun s => .lit s false)) x (kws.length + 3) :=
  (FailsOn.choice (k := 1) fun e he => by
    obtain ⟨kw, hkw, rfl⟩ := List.mem_map.1 he
    exact FailsOn.lit (h kw hkw)).mono (by fuel_le)

/-- A literal does not match a text from which it differs at a position both have. -/
theorem matchLit_clash : ∀ {kw n : List Char} (x : List Char), (kw.zip n).any (fun p => p.1 != p.2) = true →
    matchLit false kw (n ++ x) = none
  | a :: as, b :: bs, x, h => by
    rw [List.cons_append, matchLit_cons]
    split
    · next e =>
      subst e
      rw [List.zip_cons_cons, List.any_cons, bne_self_eq_false, Bool.false_or] at h
      exact matchLit_clash x h
    · rfl

/-- Among literals that differ pairwise at a position both have, the one the text starts with is chosen. -/
theorem ChoiceRun.lits {kw x : List Char} : ∀ {kws : List (List Char)}, kw ∈ kws →
    (∀ a ∈ kws, a ≠ kw → (a.zip kw).any (fun p => p.1 != p.2) = true) →
    ChoiceRun g 1 (kws.map fun s => .lit s false) (kw ++ x) (.text kw) x
  | a :: r, hm, h => by
    by_cases e : a = kw
    · subst e; exact .head (ParsesTo.lit_append a x)
    · exact .tail (FailsOn.lit (matchLit_clash x ((List.forall_mem_cons.1 h).1 e)))
        (ChoiceRun.lits ((List.mem_cons.1 hm).resolve_left (Ne.symm e)) (List.forall_mem_cons.1 h).2)

/-- A repetition: the body parses item after item, then fails on what is left. -/
inductive StarRun (g : Grammar) (e : Expr) (k : Nat) : List Char → List Tree → List Char → Prop
  | done {rest} : FailsOn g e rest k → StarRun g e k rest [] rest
  | step {inp t mid ts rest} : ParsesTo g e inp t mid k → StarRun g e k mid ts rest → StarRun g e k inp (t :: ts) rest

theorem StarRun.pStar {e k inp ts rest} (h : StarRun g e k inp ts rest) : ∀ F, ts.length + k + 1 ≤ F → pStar g F e inp = .ok ts rest := by
  induction h with
  | done hf => exact from_succ fun F hF => by rw [pStar_succ, hf F (by simp at hF; omega)]
  | step hp _ ih =>
    refine from_succ fun F hF => ?_
    simp only [List.length_cons] at hF
    simp only [pStar_succ, hp F (by omega), ih F (by omega)]

theorem ParsesTo.star {e k inp ts rest} (h : StarRun g e k inp ts rest) : ParsesTo g (.star e) inp (.seq ts) rest (ts.length + k + 2) :=
  from_succ fun F hF => by rw [pExpr_star, h.pStar F hF]

theorem ParsesTo.plus {e k inp t mid ts rest} (h1 : ParsesTo g e inp t mid k) (h : StarRun g e k mid ts rest) :
    ParsesTo g (.plus e) inp (.seq (t :: ts)) rest (ts.length + k + 2) :=
  from_succ fun F hF => by simp only [pExpr_plus, h1 F (by omega), h.pStar F hF]

theorem FailsOn.plus {e k inp} (h : FailsOn g e inp k) : FailsOn g (.plus e) inp (k + 1) :=
  from_succ fun F hF => by rw [pExpr_plus, h F hF]

theorem StarRun.mono {e k k' inp ts rest} (h : StarRun g e k inp ts rest) (hk : k ≤ k') : StarRun g e k' inp ts rest := by
  induction h with
  | done hf => exact .done (hf.mono hk)
  | step hp _ ih => exact .step (hp.mono hk) ih

/-- From fuel `k` on, `e` consumes exactly one character satisfying `p` (value: that character's text). -/
def CharMatcher (g : Grammar) (e : Expr) (p : Char → Bool) (k : Nat) : Prop :=
  ∀ F, k ≤ F → (∀ c r, pExpr g F e (c :: r) = if p c then .ok (.text [c]) r else .fail) ∧ pExpr g F e [] = .fail

/-- The next character (if any) does not satisfy `p`. -/
def StopsAt (p : Char → Bool) (rest : List Char) : Prop := ∀ c r, rest = c :: r → p c = false

theorem StopsAt.of_imp {p q : Char → Bool} {x : List Char} (h : StopsAt q x) (hpq : ∀ c, p c = true → q c = true) : StopsAt p x :=
  fun c r e => by
    cases hp : p c with
    | false => rfl
    | true => rw [← hpq c hp, h c r e]

theorem StopsAt.dropWhile {p : Char → Bool} {rest : List Char} (h : StopsAt p rest) : ∀ {l : List Char}, StopsAt p (l.dropWhile p ++ rest)
  | [] => h
  | a :: t => by
    cases ha : p a with
    | true => rw [List.dropWhile_cons_of_pos ha]; exact StopsAt.dropWhile h
    | false => rw [List.dropWhile_cons_of_neg (by simp [ha])]; exact fun c r e => by injection e with e1 _; rw [← e1, ha]

theorem CharMatcher.cls {cs rs inv ic} : CharMatcher g (.cls cs rs inv ic) (clsMatches cs rs inv ic) 1
  | _ + 1, _ => ⟨fun _ _ => rfl, rfl⟩

theorem CharMatcher.ref_cls {n cs rs inv ic} (hl : g.lookup n = some (.cls cs rs inv ic)) :
    CharMatcher g (.ref n) (clsMatches cs rs inv ic) 2
  | F + 2, _ => by refine ⟨fun c r => ?_, ?_⟩ <;> rw [pExpr_ref, hl] <;> rfl

theorem CharMatcher.mono {e p k k'} (h : CharMatcher g e p k) (hk : k ≤ k') : CharMatcher g e p k' :=
  fun F hF => h F (Nat.le_trans hk hF)

theorem CharMatcher.congr {e p q k} (h : CharMatcher g e p k) (hpq : ∀ c, p c = q c) : CharMatcher g e q k :=
  funext hpq ▸ h

theorem CharMatcher.lit1 {w : Char} : CharMatcher g (.lit [w] false) (· == w) 1
  | _ + 1, _ => ⟨fun c r => by rw [pExpr_lit, matchLit_cons]; by_cases h : c = w <;> simp [h, matchLit, consumed_cons], rfl⟩

theorem CharMatcher.choice_nil : CharMatcher g (.choice []) (fun _ => false) 2
  | _ + 2, _ => ⟨fun _ _ => rfl, rfl⟩

theorem CharMatcher.choice_cons {e es p q k} (h1 : CharMatcher g e p k) (h2 : CharMatcher g (.choice es) q (k + 1)) :
    CharMatcher g (.choice (e :: es)) (fun c => p c || q c) (k + 2)
  | F + 2, hF => by
    obtain ⟨a1, a2⟩ := h1 F (by omega)
    obtain ⟨b1, b2⟩ := h2 (F + 1) (by omega)
    simp only [pExpr_choice] at b1 b2
    refine ⟨fun c r => ?_, ?_⟩ <;> rw [pExpr_choice, pChoice_cons]
    · rw [a1 c r, b1 c r]; cases hp : p c <;> simp [hp]
    · rw [a2, b2]

theorem CharMatcher.parses {e : Expr} {p : Char → Bool} {k : Nat} (hm : CharMatcher g e p k) {c : Char} (r : List Char)
    (hc : p c = true) : ParsesTo g e (c :: r) (.text [c]) r k :=
  fun F hF => by rw [(hm F hF).1 c r, hc]; rfl

theorem CharMatcher.fails {e : Expr} {p : Char → Bool} {k : Nat} (hm : CharMatcher g e p k) {x : List Char}
    (hx : StopsAt p x) : FailsOn g e x k := fun F hF => by
  cases x with
  | nil => exact (hm F hF).2
  | cons c r => rw [(hm F hF).1 c r, hx c r rfl]; rfl

theorem StarRun.chars {e : Expr} {p : Char → Bool} {k : Nat} (hm : CharMatcher g e p k) :
    ∀ (cs rest : List Char), (∀ c ∈ cs, p c = true) → StopsAt p rest →
      StarRun g e k (cs ++ rest) (cs.map fun c => Tree.text [c]) rest
  | [], _, _, hstop => .done (hm.fails hstop)
  | _ :: cs, rest, hall, hstop =>
    .step (hm.parses _ (List.forall_mem_cons.1 hall).1) (StarRun.chars hm cs rest (List.forall_mem_cons.1 hall).2 hstop)

theorem SeqRun.nil {k inp} : SeqRun g k [] inp [] inp := ⟨rfl, rfl⟩
theorem SeqRun.cons {k e es inp t mid ts rest} (h1 : ParsesTo g e inp t mid k) (h2 : SeqRun g k es mid ts rest) :
    SeqRun g k (e :: es) inp (t :: ts) rest := ⟨t, mid, ts, rfl, h1, h2⟩

theorem SeqRun.mono {k k'} (hk : k ≤ k') : ∀ {es inp ts rest}, SeqRun g k es inp ts rest → SeqRun g k' es inp ts rest
  | [], _, _, _, h => h
  | _ :: _, _, _, _, ⟨_, _, _, rfl, hp, hr⟩ => SeqRun.cons (hp.mono hk) (SeqRun.mono hk hr)

theorem SeqRun.cons_le {k1 k e es inp t mid ts rest} (h1 : ParsesTo g e inp t mid k1) (hk : k1 ≤ k)
    (h2 : SeqRun g k es mid ts rest) : SeqRun g k (e :: es) inp (t :: ts) rest :=
  SeqRun.cons (h1.mono hk) h2

/-! Additive accounting, for sequences whose bound is a sum over the pieces of the text: a bound is
read as `w + c`, a part `w` that grows with the text and a constant `c`.  The `w`s of the elements
add up; their constants only have to lie under one common constant, fixed by `nilC` at the end of
the sequence, so that every side condition is a comparison of numerals.  (`nilC` starts the sum at
`0`, which is the `+ 0` at the end of the `w` of a statement built this way.) -/

theorem SeqRun.nilC {inp} (c : Nat) : SeqRun g (0 + c) [] inp [] inp := SeqRun.nil

theorem SeqRun.consA {w1 c1 w2 c e es inp t mid ts rest} (h1 : ParsesTo g e inp t mid (w1 + c1)) (hc : c1 ≤ c)
    (h2 : SeqRun g (w2 + c) es mid ts rest) : SeqRun g (w1 + w2 + c) (e :: es) inp (t :: ts) rest :=
  SeqRun.cons (h1.mono (by omega)) (SeqRun.mono (by omega) h2)

/-- An element with a constant bound adds nothing. -/
theorem SeqRun.consC {k1 w c e es inp t mid ts rest} (h1 : ParsesTo g e inp t mid k1) (hc : k1 ≤ c)
    (h2 : SeqRun g (w + c) es mid ts rest) : SeqRun g (w + c) (e :: es) inp (t :: ts) rest :=
  SeqRun.cons (h1.mono (by omega)) h2

theorem SeqRun.padC {w c c' es inp ts rest} (hc : c ≤ c') (h : SeqRun g (w + c) es inp ts rest) : SeqRun g (w + c') es inp ts rest :=
  SeqRun.mono (by omega) h

theorem SeqRun.appendA {w1 c1 w2 c es2 mid ts2 rest} (h2 : SeqRun g (w2 + c) es2 mid ts2 rest) (hc : c1 ≤ c) :
    ∀ {es1 inp ts1}, SeqRun g (w1 + c1) es1 inp ts1 mid → SeqRun g (w1 + w2 + c) (es1 ++ es2) inp (ts1 ++ ts2) rest
  | [], _, _, ⟨rfl, rfl⟩ => SeqRun.mono (by omega) h2
  | _ :: _, _, _, ⟨_, _, _, rfl, hp, hr⟩ => SeqRun.cons (hp.mono (by omega)) (SeqRun.appendA h2 hc hr)

end comb

end FV.Peg
