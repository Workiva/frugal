/- What the emitted Write does on ill-formed values (FV.Thrift.HasBadUnion, WTU): it never succeeds on a value
that contains a bad union, and on a value that is otherwise well-typed the outcome is INVALID_DATA. -/
import FV.Proofs.Thrift

namespace FV.Thrift

/-- The emitted `Write` NEVER succeeds on a value that contains a bad union, at any depth — whatever
else the value looks like. -/
theorem enc_bad_union_not_ok (d : Defs) : ∀ (n : Nat) (t : Ty) (v : Val) (es : List Event),
    HasBadUnion d n t v → encV d n t v ≠ .ok es := by
  intro n
  induction n with
  | zero => intro t v es h; exact h.elim
  | succ n ih =>
    intro t v es hb henc
    unfold HasBadUnion at hb
    -- the arms of `HasBadUnion`, in the order of its definition
    split at hb
    case h_1 a vs hres | h_2 a vs hres =>  -- list, set
      obtain ⟨x, hx, hbx⟩ := hb
      rw [encV_seq hres (by constructor)] at henc
      obtain ⟨_, hcat, _⟩ := wrapRes_eq_ok henc
      obtain ⟨c, hc⟩ := concatRes_ok_mem hcat _ (List.mem_map_of_mem hx)
      exact ih a x c hbx hc
    case h_3 kt vt kvs hres =>  -- map
      obtain ⟨kv, hkv, hbkv⟩ := hb
      rw [encV_map hres] at henc
      obtain ⟨_, hcat, _⟩ := wrapRes_eq_ok henc
      obtain ⟨c, hc⟩ := concatRes_ok_mem hcat _ (List.mem_map_of_mem hkv)
      rcases hbkv with h | h
      · obtain ⟨ck, hk⟩ := concatRes_ok_mem hc (encV d n kt kv.1) (by simp)
        exact ih kt kv.1 ck h hk
      · obtain ⟨cv, hv⟩ := concatRes_ok_mem hc (encV d n vt kv.2) (by simp)
        exact ih vt kv.2 cv h hv
    case h_4 nm fs hres =>  -- struct
      obtain ⟨sd, hsd, hbad⟩ := hb
      rw [encV_struct hres hsd] at henc
      split at henc
      · cases henc
      · rename_i hnotbad
        rcases hbad with hu | ⟨f, hf, x, hl, hs, hbx⟩
        · exact hnotbad hu
        · obtain ⟨_, hcat, _⟩ := wrapRes_eq_ok henc
          obtain ⟨c, hc⟩ := concatRes_ok_mem hcat _ (List.mem_map_of_mem hf)
          rw [fieldEvents_listed hl, if_pos hs] at hc
          obtain ⟨body, hbody, _⟩ := wrapRes_eq_ok hc
          exact ih f.ty x body hbx hbody
    case h_5 => exact hb  -- any other shape: no bad union

/-- On a value that is well-typed apart from its union counts the emitted `Write` either succeeds or
returns INVALID_DATA: it never panics, and no other error arises. -/
theorem enc_okOrInvalid (d : Defs) : ∀ (n : Nat) (t : Ty) (v : Val), WTU d n t v → OkOrInvalid (encV d n t v) := by
  intro n
  induction n with
  | zero => intro t v h; exact h.elim
  | succ n ih =>
    intro t v hwt
    have hok : ∀ es : List Event, OkOrInvalid (.ok es) := fun es => .inl ⟨es, rfl⟩
    have hcat := @concatRes_closed OkOrInvalid hok
    have hwrap := @wrapRes_closed OkOrInvalid hok
    unfold WTU at hwt
    -- the arms of `WTU` (those of `WT`): nine base types, list, set, map, struct, ill-typed
    split at hwt
    case h_10 a vs hres | h_11 a vs hres =>  -- list, set
      rw [encV_seq hres (by constructor)]
      exact hwrap (hcat _ (List.forall_mem_map.mpr fun x hx => ih a x (hwt x hx)))
    case h_12 kt vt kvs hres =>  -- map
      rw [encV_map hres]
      exact hwrap (hcat _ (List.forall_mem_map.mpr fun kv hkv => hcat _ (List.forall_mem_cons.mpr
        ⟨ih kt kv.1 (hwt kv hkv).1, List.forall_mem_singleton.mpr (ih vt kv.2 (hwt kv hkv).2)⟩)))
    case h_13 nm fs hres =>  -- struct
      obtain ⟨sd, hsd, hreq, hfields⟩ := hwt
      rw [encV_struct hres hsd]
      split
      · exact .inr rfl
      · refine hwrap (hcat _ (List.forall_mem_map.mpr fun f hf => ?_))
        cases hl : lookupVal fs f.id with
        | none => rw [fieldEvents_unlisted hl, if_pos (optional_of_absent sd fs hreq f hf hl)]; exact hok _
        | some x =>
          rw [fieldEvents_listed hl]
          split
          · exact hwrap (ih f.ty x (hfields f hf x hl))
          · exact hok _
    case h_14 => exact hwt.elim  -- ill-typed
    -- the nine base types: one call, a success
    all_goals
      rename_i hres
      simp only [encV, hres]
      exact hok _

end FV.Thrift
