/-
The declaration rules of the regenerated grammar, for every styling: the shared pieces (doc comments,
integer constants, `= value`, the tail `_ annotations? ListSeparator?`, items `(X __)*`, blocks
`name { … }`), then EnumValue and Enum.  (`PegFields`: Field, FieldList, the struct-like rules.)
The numerals in the fuel bounds: see the note on bounds in `Proofs/Peg.lean` (section on combinators).
-/
import FV.Proofs.PegGaps

namespace FV.PegIdl
open FV.Peg FV.Generated FV.Act FV.Syn

theorem SeqRun.append {g : Grammar} {k : Nat} : ∀ {es1 es2 : List Expr} {inp : List Char} {ts1 : List Tree} {mid : List Char}
    {ts2 : List Tree} {rest : List Char}, SeqRun g k es1 inp ts1 mid → SeqRun g k es2 mid ts2 rest →
    SeqRun g k (es1 ++ es2) inp (ts1 ++ ts2) rest := by
  intro es1 es2 inp ts1 mid ts2 rest h1 h2
  have := SeqRun.appendA (w1 := 0) (w2 := 0) (c1 := k) (c := k) (by rwa [Nat.zero_add]) (Nat.le_refl k) (by rwa [Nat.zero_add])
  rwa [Nat.zero_add] at this

/-- After a token: a gap (which starts with a character that starts no token), then `y`. -/
theorem stops_after_gap {p : Char → Bool} (hp : ∀ c, tokC c = false → p c = false) {g : List Char} (hg : UUGapText g) {y : List Char}
    (hy : g = [] → StopsAt p y) : StopsAt p (g ++ y) :=
  HeadP.append_of hg.head hp hy

/-- A written integer: optional sign, digits. -/
structure SInt where
  sign : List Char
  d : Char
  ds : List Char

namespace SInt
def text (i : SInt) : List Char := i.sign ++ i.d :: i.ds
def Ok (i : SInt) : Prop := SignOk i.sign ∧ digitC i.d = true ∧ (∀ x ∈ i.ds, digitC x = true) ∧ (parseInt i.text).isSome
/-- The value `strconv.ParseInt` gives (`Ok` says it fits int64). -/
def value (i : SInt) : Int := (parseInt i.text).getD 0
def tree (i : SInt) : Tree :=
  .act "IntConstant1" i.text (.seq [signTree i.sign, .seq ((i.d :: i.ds).map fun x => Tree.text [x])])
end SInt

theorem intconst_parses (i : SInt) (hok : i.Ok) (x : List Char) (hx : StopsAt digitC x) :
    ParsesTo grammar (.ref "IntConstant") (i.text ++ x) i.tree x (i.ds.length + 10) := by
  simpa [SInt.text, SInt.tree] using intconst_digits hok.1 hok.2.1 hok.2.2.1 hx

/-- What a written integer starts with. -/
def intStartC (c : Char) : Bool := digitC c || c == '-' || c == '+'

theorem SInt.head (i : SInt) (hok : i.Ok) (y : List Char) : HeadP (fun c => intStartC c = true) (i.text ++ y) := by
  rcases hok.1 with h | h | h <;> simp only [SInt.text, h, List.nil_append, List.cons_append]
  · exact HeadP.cons (by simp [intStartC, hok.2.1])
  · exact HeadP.cons (by decide)
  · exact HeadP.cons (by decide)

theorem intStart_tok {c : Char} (h : intStartC c = true) : tokC c = true := by
  simp only [intStartC, Bool.or_eq_true, beq_iff_eq] at h
  rcases h with (h | rfl) | rfl
  · exact idPart_tok (digit_idPart h)
  · decide
  · decide

theorem evInt_tree (i : SInt) : evInt i.tree = i.value := rfl

/-- A written doc comment: body and the gap of `__` after it. -/
structure SDoc where
  body : List Char
  gap : List Char

namespace SDoc
def comment (d : SDoc) : List Char := '/' :: '*' :: '*' :: '@' :: d.body ++ ['*', '/']
def text (d : SDoc) : List Char := d.comment ++ d.gap
def Ok (d : SDoc) : Prop := noClose d.body = true ∧ UUGapText d.gap
end SDoc

def docText : Option SDoc → List Char
  | none => []
  | some d => d.text

/-- The `Comment []string` the action computes. -/
def docValue : Option SDoc → Doc
  | none => none
  | some d => some (docLines d.comment)

def DocOk : Option SDoc → Prop
  | none => True
  | some d => d.Ok

/-- `docstr:(DocString __)?` on a text that does not start with `/`. -/
theorem docOpt_none {x : List Char} (hx : HeadP (fun c => c ≠ '/') x) :
    ParsesTo grammar (.lab "docstr" (.opt (.seq [.ref "DocString", .ref "__"]))) x (.lab "docstr" .nil) x 14 :=
  ParsesTo.lab (ParsesTo.opt_none (FailsOn.seq (SeqFail.head (docstring_fails (matchLit_head hx)))))

/-- `docstr:(DocString __)?` in front of a token `x`. -/
theorem docOpt_parses (d : Option SDoc) (hd : DocOk d) (x : List Char) (hx : TokHead x) :
    ∃ t, ParsesTo grammar (.lab "docstr" (.opt (.seq [.ref "DocString", .ref "__"]))) (docText d ++ x) (.lab "docstr" t) x ((docText d).length * 2 + 90) ∧
      evDoc t = docValue d := by
  cases d with
  | none => exact ⟨.nil, (docOpt_none (hx.uhead.mono fun _ h => h.2)).mono (by simp [docText]), rfl⟩
  | some d =>
    obtain ⟨ts, hu⟩ := uu_consumes d.gap x hd.2.isGap hx.uustop
    have h := ParsesTo.ref lk_DocString (ParsesTo.act (ParsesTo.seq (k := d.body.length + 9)
      (SeqRun.cons_le (ParsesTo.lit_append ['/', '*', '*', '@'] _) (by omega) (SeqRun.cons_le (ParsesTo.star (block_scan d.body (d.gap ++ x) hd.1)) (by fuel_le)
      (SeqRun.cons_le (ParsesTo.lit_append ['*', '/'] (d.gap ++ x)) (by omega) SeqRun.nil)))))
    rw [consumed_of_eq _ ('/' :: '*' :: '*' :: '@' :: d.body ++ ['*', '/']) (d.gap ++ x) (by simp)] at h
    have hs := ParsesTo.lab (n := "docstr") (ParsesTo.opt_some (ParsesTo.seq
      (SeqRun.consA (h.mono (by fuel_le : _ ≤ d.body.length + 20)) (by decide) (SeqRun.consA hu (by decide) (SeqRun.nilC 70)))))
    rw [show docText (some d) ++ x = '/' :: '*' :: '*' :: '@' :: d.body ++ ('*' :: '/' :: (d.gap ++ x)) by simp [docText, SDoc.text, SDoc.comment]]
    refine ⟨_, hs.mono (by simp [docText, SDoc.text, SDoc.comment]; omega), ?_⟩
    simp [evDoc, unlab, isNil, nth, kids, textOf, docValue, SDoc.comment]

def sepText : Option Char → List Char
  | none => []
  | some c => [c]

def SepOkC : Option Char → Prop
  | none => True
  | some c => c = ',' ∨ c = ';'

theorem sepText_head (sep : Option Char) (hs : SepOkC sep) (rest : List Char) (P : Char → Prop)
    (hc : P ',' ∧ P ';') (hr : sep = none → HeadP P rest) : HeadP P (sepText sep ++ rest) := by
  cases sep with
  | none => exact hr rfl
  | some c =>
    rcases (hs : c = ',' ∨ c = ';') with rfl | rfl
    · exact HeadP.cons hc.1
    · exact HeadP.cons hc.2

theorem sep_matcher : CharMatcher grammar (.ref "ListSeparator") (clsMatches [',', ';'] [] false false) 2 :=
  CharMatcher.ref_cls lk_ListSeparator

/-- What must follow an item that ends without a separator: no white space or `/` (they would
belong to the item's last gap), no `(` (annotations), no separator. -/
def ItemEnd (sep : Option Char) (rest : List Char) : Prop :=
  match sep with
  | some _ => True
  | none => HeadP (fun c => (wsC c = false ∧ c ≠ '/') ∧ c ≠ '(' ∧ (c ≠ ',' ∧ c ≠ ';')) rest

/-- The tail `_ annotations:TypeAnnotations? ListSeparator?` of EnumValue / Field / Function / Operation,
without annotations: a gap of `_`, then an optional separator. -/
theorem itemTail_parses (g : List Char) (hg : UGapText g) (sep : Option Char) (hs : SepOkC sep) (rest : List Char) (hr : ItemEnd sep rest) :
    ∃ ts tsep, SeqRun grammar (2 * g.length + 70) [.ref "_", .lab "annotations" (.opt (.ref "TypeAnnotations")), .opt (.ref "ListSeparator")]
      (g ++ (sepText sep ++ rest)) [.seq ts, .lab "annotations" .nil, tsep] rest := by
  have hh : HeadP (fun c => (wsC c = false ∧ c ≠ '/') ∧ c ≠ '(') (sepText sep ++ rest) :=
    sepText_head sep hs rest _ (by decide) fun e => by subst e; exact HeadP.mono hr fun _ h => ⟨h.1, h.2.1⟩
  obtain ⟨ts, hu⟩ := u_consumes g _ hg.isGap (hh.mono fun _ h => h.1)
  have h2 := ParsesTo.lab (n := "annotations") (noAnns _ (hh.mono fun _ h => h.2))
  cases sep with
  | none =>
    exact ⟨ts, .nil, SeqRun.cons hu (SeqRun.cons_le h2 (by omega) (SeqRun.cons_le (ParsesTo.opt_none (sep_matcher.fails
      (HeadP.mono hr fun c h => clsMatches_of_ne (by simp [h.2.2.1, h.2.2.2])))) (by omega) SeqRun.nil))⟩
  | some c =>
    exact ⟨ts, .text [c], SeqRun.cons hu (SeqRun.cons_le h2 (by omega) (SeqRun.cons_le (ParsesTo.opt_some (sep_matcher.parses rest
      (by rcases (hs : c = ',' ∨ c = ';') with rfl | rfl <;> decide))) (by omega) SeqRun.nil))⟩

/-- `= value`: the gap after `=`, the integer, the gap after it. -/
structure SAssign where
  g2 : List Char
  int : SInt
  g3 : List Char

/-- A written enum value. -/
structure SEnumValue where
  doc : Option SDoc
  c : Char
  s : List Char
  g1 : List Char
  value : Option SAssign
  sep : Option Char

namespace SEnumValue

/-- The text, followed by `rest`. -/
def renderK (v : SEnumValue) (rest : List Char) : List Char :=
  match v.value with
  | none => docText v.doc ++ (v.c :: v.s ++ (v.g1 ++ (sepText v.sep ++ rest)))
  | some a => docText v.doc ++ (v.c :: v.s ++ (v.g1 ++ ('=' :: (a.g2 ++ (a.int.text ++ (a.g3 ++ (sepText v.sep ++ rest)))))))

def Ok (v : SEnumValue) : Prop :=
  DocOk v.doc ∧ idStart v.c = true ∧ (∀ x ∈ v.s, idPart x = true) ∧ UGapText v.g1 ∧ SepOkC v.sep ∧
  (match v.value with
   | none => True
   | some a => UGapText a.g2 ∧ a.int.Ok ∧ UGapText a.g3)

/-- What the `EnumValue` action returns. -/
def raw (v : SEnumValue) : RawEV :=
  { doc := docValue v.doc, name := v.c :: v.s, value := v.value.map (fun a => a.int.value), anns := [] }

/-- What may follow: nothing special after a separator; otherwise no separator, `(`, white space or `/`,
no `=` after a value-less name, and no identifier character / digit directly after the name / number. -/
def End (v : SEnumValue) (rest : List Char) : Prop :=
  ItemEnd v.sep rest ∧
  (v.sep = none →
    match v.value with
    | none => HeadP (fun c => c ≠ '=') rest ∧ (v.g1 = [] → StopsAt idPart rest)
    | some a => (a.g3 = [] → StopsAt digitC rest))

def cost (v : SEnumValue) : Nat :=
  2 * (docText v.doc).length + v.s.length + 2 * v.g1.length +
    (match v.value with | none => 0 | some a => 2 * a.g2.length + a.int.ds.length + 2 * a.g3.length) + 100

end SEnumValue

/-- The text of an optional `= integer` and of the optional separator, followed by `rest`. -/
def assignK (v : Option SAssign) (sep : Option Char) (rest : List Char) : List Char :=
  match v with
  | none => sepText sep ++ rest
  | some a => '=' :: (a.g2 ++ (a.int.text ++ (a.g3 ++ (sepText sep ++ rest))))

/-- What `= integer` adds to the fuel bound of its item. -/
def assignW : Option SAssign → Nat
  | none => 0
  | some a => 2 * a.g2.length + a.int.ds.length + 2 * a.g3.length

theorem assignK_head {P : Char → Prop} (v : Option SAssign) (sep : Option Char) (hs : SepOkC sep) (rest : List Char)
    (hc : P '=' ∧ P ',' ∧ P ';') (hr : v = none → sep = none → HeadP P rest) : HeadP P (assignK v sep rest) := by
  cases v with
  | none => exact sepText_head sep hs rest P hc.2 (hr rfl)
  | some a => exact HeadP.cons hc.1

/-- The chunk `L:('=' _ V)? _ annotations? ListSeparator?` that ends EnumValue (`V` = IntConstant) and
Field (`V` = ConstValue), for an integer value, given what rule `V` does on it. -/
theorem assignTail_parses (L V : String) (v : Option SAssign) (sep : Option Char) (hs : SepOkC sep) (rest : List Char) (hie : ItemEnd sep rest)
    (hok : match v with | none => True | some a => UGapText a.g2 ∧ a.int.Ok ∧ UGapText a.g3)
    (hnone : v = none → sep = none → HeadP (fun c => c ≠ '=') rest)
    (hv : ∀ a, v = some a → a.int.Ok → UGapText a.g3 → ParsesTo grammar (.ref V) (a.int.text ++ (a.g3 ++ (sepText sep ++ rest))) a.int.tree
      (a.g3 ++ (sepText sep ++ rest)) (a.int.ds.length + 35)) :
    ∃ td ts tsep, SeqRun grammar (assignW v + 77)
        [.lab L (.opt (.seq [.lit ['='] false, .ref "_", .ref V])), .ref "_", .lab "annotations" (.opt (.ref "TypeAnnotations")),
          .opt (.ref "ListSeparator")]
        (assignK v sep rest) [.lab L td, .seq ts, .lab "annotations" .nil, tsep] rest ∧
      (match (generalizing := false) v with
       | none => td = .nil
       | some a => ∃ tg, td = .seq [.text ['='], .seq tg, a.int.tree]) := by
  match v, hok, hnone, hv with
  | none, _, hnone, _ =>
    obtain ⟨ts, tsep, htail⟩ := itemTail_parses [] .nil sep hs rest hie
    have hy : HeadP (fun c => c ≠ '=') (sepText sep ++ rest) := sepText_head sep hs rest _ (by decide) (hnone rfl)
    exact ⟨.nil, ts, tsep, SeqRun.cons_le (k := assignW none + 77) (ParsesTo.lab (ParsesTo.opt_none (FailsOn.seq (SeqFail.head (FailsOn.lit_head hy)))))
      (by simp [assignW]) (SeqRun.mono (by simp [assignW]) htail), rfl⟩
  | some a, ⟨hg2, hint, hg3⟩, _, hv =>
    obtain ⟨ts2, hu2⟩ := u_consumes a.g2 (a.int.text ++ (a.g3 ++ (sepText sep ++ rest))) hg2.isGap
      ((a.int.head hint _).mono fun _ h => tokC_not_ws (intStart_tok h))
    obtain ⟨ts3, tsep, htail⟩ := itemTail_parses a.g3 hg3 sep hs rest hie
    have hvs := ParsesTo.lab (n := L) (ParsesTo.opt_some (ParsesTo.seq (SeqRun.consC (ParsesTo.lit_append ['='] _) (by decide)
      (SeqRun.consA hu2 (by decide) (SeqRun.consA (hv a rfl hint hg3) (by decide) (SeqRun.nilC 70))))))
    exact ⟨_, ts3, tsep, SeqRun.cons_le (k := assignW (some a) + 77) hvs (by simp only [assignW]; fuel_le)
      (SeqRun.mono (by simp only [assignW]; omega) htail), ⟨ts2, rfl⟩⟩

/-- What the actions read of an item `X __` of a repetition: the value of `X`. -/
theorem nth_item (tv : Tree) (ts : List Tree) : nth (.seq (tv :: ts)) 0 = unlab tv := rfl

/-- One more item in front of a run of `(X __)*`: the item, its gap of `__`, the items after it. -/
theorem item_step {X : String} {inp g y tail : List Char} {tv : Tree} {ts : List Tree} {w c K K' : Nat}
    (hp : ParsesTo grammar (.ref X) inp tv (g ++ y) (w + c)) (hc : c ≤ 70) (hg : UUGapText g) (hstop : UUStop y)
    (hrun : StarRun grammar (.seq [.ref X, .ref "__"]) K y ts tail) (hK : K ≤ K') (hw : w + 2 * g.length + 74 ≤ K') :
    ∃ tsg, StarRun grammar (.seq [.ref X, .ref "__"]) K' inp (.seq [tv, .seq tsg] :: ts) tail := by
  obtain ⟨tsg, hu⟩ := uu_consumes g y hg.isGap hstop
  exact ⟨tsg, .step ((ParsesTo.seq (SeqRun.consA hp hc (SeqRun.consA hu (Nat.le_refl _) (SeqRun.nilC 70)))).mono (by fuel_le)) (hrun.mono hK)⟩

/-- The `;` form of `EOS`. -/
theorem eos_semicolon (g rest : List Char) (hg : UUGapText g) :
    ∃ t, ParsesTo grammar (.ref "EOS") (g ++ (';' :: rest)) t rest (2 * g.length + 80) := by
  obtain ⟨ts, hu⟩ := uu_consumes g (';' :: rest) hg.isGap (TokHead.uustop (HeadP.cons (by decide)))
  exact ⟨_, (ParsesTo.ref lk_EOS (ParsesTo.choice (ChoiceRun.head (ParsesTo.seq (SeqRun.cons hu
    (SeqRun.cons_le (ParsesTo.lit_append [';'] rest) (by omega) SeqRun.nil)))))).mono (by fuel_le)⟩

/-- The block `name __ '{' __ body '}' _ annotations? EOS` of Enum and StructLike (without annotations,
`;` form of EOS), given what the body expression `B` does on the body text `bt` (the `+ 0` in the bound is
`SeqRun.nilC`'s). -/
theorem block_parses (L : String) (B : Expr) (c : Char) (s gb gc bt gd ge rest : List Char) (hc : idStart c = true)
    (hs : ∀ x ∈ s, idPart x = true) (hgb : UUGapText gb) (hgc : UUGapText gc) (hstop : UUStop bt) (hgd : UGapText gd)
    (hge : UUGapText ge) (hgeh : UHead ge) {tb : Tree} {wb cb : Nat}
    (hB : ParsesTo grammar B bt tb ('}' :: (gd ++ (ge ++ (';' :: rest)))) (wb + cb)) (hcb : cb + 1 ≤ 80) :
    ∃ t4 t6 t9 t11, SeqRun grammar (s.length + (2 * gb.length + (2 * gc.length + (wb + (2 * gd.length + (2 * ge.length + 0))))) + 80)
      [.lab "name" (.ref "Identifier"), .ref "__", .lit ['{'] false, .ref "__", .lab L B, .lit ['}'] false, .ref "_",
        .lab "annotations" (.opt (.ref "TypeAnnotations")), .ref "EOS"]
      (c :: s ++ (gb ++ ('{' :: (gc ++ bt))))
      [.lab "name" (idTree c s), .seq t4, .text ['{'], .seq t6, .lab L tb, .text ['}'], .seq t9, .lab "annotations" .nil, t11] rest := by
  have h3 := ParsesTo.labA (n := "name") (identifier_parses c s (gb ++ ('{' :: (gc ++ bt))) hc hs
    (stops_after_gap (fun _ => nonTok_not_idPart) hgb fun _ => HeadP.cons (by decide)))
  obtain ⟨t4, h4⟩ := uu_consumes gb ('{' :: (gc ++ bt)) hgb.isGap (TokHead.uustop (HeadP.cons (by decide)))
  obtain ⟨t6, h6⟩ := uu_consumes gc bt hgc.isGap hstop
  obtain ⟨t9, h9⟩ := u_consumes gd (ge ++ (';' :: rest)) hgd.isGap (HeadP.append hgeh (HeadP.cons (by decide)))
  have h10 := ParsesTo.lab (n := "annotations") (noAnns (ge ++ (';' :: rest)) (HeadP.append_of hge.head
    (fun _ h => (ne_of_class (by decide) h).symm) fun _ => HeadP.cons (by decide)))
  obtain ⟨t11, h11⟩ := eos_semicolon ge rest hge
  exact ⟨t4, t6, t9, t11, SeqRun.consA h3 (by decide) (SeqRun.consA h4 (by decide) (SeqRun.consC (ParsesTo.lit_append ['{'] _) (by decide)
    (SeqRun.consA h6 (by decide) (SeqRun.consA (ParsesTo.labA hB) hcb (SeqRun.consC (ParsesTo.lit_append ['}'] _) (by decide)
    (SeqRun.consA h9 (by decide) (SeqRun.consC h10 (by decide) (SeqRun.consA h11 (by decide) (SeqRun.nilC 80)))))))))⟩

theorem SEnumValue.cost_eq (v : SEnumValue) :
    v.cost = 2 * (docText v.doc).length + v.s.length + 2 * v.g1.length + assignW v.value + 100 := by
  cases h : v.value <;> simp [SEnumValue.cost, assignW, h]

theorem SEnumValue.renderK_eq (v : SEnumValue) (rest : List Char) :
    v.renderK rest = docText v.doc ++ (v.c :: v.s ++ (v.g1 ++ assignK v.value v.sep rest)) := by
  cases h : v.value <;> simp [SEnumValue.renderK, assignK, h]

theorem enumValue_parses (v : SEnumValue) (hok : v.Ok) (rest : List Char) (hend : v.End rest) :
    ∃ t, ParsesTo grammar (.ref "EnumValue") (v.renderK rest) t rest (v.cost + 20) ∧ unlab t = t ∧ evEnumValue t = v.raw := by
  obtain ⟨hdoc, hc, hs, hg1, hsep, hval⟩ := hok
  obtain ⟨hie, hend2⟩ := hend
  have hne : v.value = none → v.sep = none → HeadP (fun c => c ≠ '=') rest ∧ (v.g1 = [] → StopsAt idPart rest) := fun hv h => by
    have := hend2 h; rwa [hv] at this
  obtain ⟨tdf, ts2, tsep, htail, hshape⟩ := assignTail_parses "value" "IntConstant" v.value v.sep hsep rest hie hval
    (fun hv h => (hne hv h).1) fun a ha hint hg3 => (intconst_parses a.int hint _
      (stops_after_gap (fun _ => nonTok_not_digit) hg3.toUU fun hg =>
        sepText_head v.sep hsep rest _ (by decide) fun h => by have := hend2 h; rw [ha] at this; exact this hg)).mono (by omega)
  have hY : UHead (assignK v.value v.sep rest) := assignK_head v.value v.sep hsep rest (by decide) fun _ h => by
    rw [h] at hie; exact hie.mono fun _ hc => hc.1
  obtain ⟨td, hd1, hd2⟩ := docOpt_parses v.doc hdoc (v.c :: v.s ++ (v.g1 ++ assignK v.value v.sep rest)) (HeadP.cons (idPart_tok (idStart_idPart hc)))
  have hn := ParsesTo.labA (n := "name") (identifier_parses v.c v.s (v.g1 ++ assignK v.value v.sep rest) hc hs
    (stops_after_gap (fun _ => nonTok_not_idPart) hg1.toUU fun hg => assignK_head v.value v.sep hsep rest (by decide) fun hv h => (hne hv h).2 hg))
  obtain ⟨ts1, hu1⟩ := u_consumes v.g1 _ hg1.isGap hY
  have hp := ParsesTo.ref lk_EnumValue (ParsesTo.act (ParsesTo.seq
    (SeqRun.consA hd1 (by decide) (SeqRun.consA hn (by decide) (SeqRun.consA hu1 (by decide) (SeqRun.padC (by decide : 77 ≤ 90) htail))))))
  rw [← v.renderK_eq rest] at hp
  refine ⟨_, hp.mono (by rw [v.cost_eq]; fuel_le), rfl, ?_⟩
  cases hv : v.value with
  | none =>
    rw [hv] at hshape; subst hshape
    simp [evEnumValue, FV.Act.get, FV.Act.body, findLab, isNil, evIdent, idTree, textOf, evAnns, hd2, SEnumValue.raw, hv]
  | some a =>
    rw [hv] at hshape; obtain ⟨tg, rfl⟩ := hshape
    simp [evEnumValue, FV.Act.get, FV.Act.body, findLab, isNil, evIdent, idTree, textOf, evAnns, hd2, SEnumValue.raw, hv, nth, kids, unlab]
    rfl

def evItemE : Expr := .seq [.ref "EnumValue", .ref "__"]

theorem enumValue_fails (x : List Char) (hx : HeadP (fun c => idStart c = false ∧ c ≠ '/') x) : FailsOn grammar (.ref "EnumValue") x 40 :=
  (FailsOn.ref lk_EnumValue (FailsOn.act (FailsOn.seq (k := 14) (SeqFail.tail
    (docOpt_none (hx.mono fun _ h => h.2))
    (SeqFail.head ((FailsOn.lab (identifier_fails x (hx.mono fun _ h => h.1))).mono (by decide))))))).mono (by decide)

/-- The text of a list of written enum values, each followed by its gap of `__`, then `tail`. -/
def enumBodyK : List (SEnumValue × List Char) → List Char → List Char
  | [], tail => tail
  | (v, g) :: r, tail => v.renderK (g ++ enumBodyK r tail)

def EnumBodyOk : List (SEnumValue × List Char) → List Char → Prop
  | [], _ => True
  | (v, g) :: r, tail => v.Ok ∧ UUGapText g ∧ v.End (g ++ enumBodyK r tail) ∧ UUStop (enumBodyK r tail) ∧ EnumBodyOk r tail

def enumBodyCost : List (SEnumValue × List Char) → Nat
  | [] => 50
  | (v, g) :: r => v.cost + 2 * g.length + 100 + enumBodyCost r

theorem enumBody_run : ∀ (items : List (SEnumValue × List Char)) (tail : List Char), EnumBodyOk items tail →
    HeadP (fun c => idStart c = false ∧ c ≠ '/') tail →
    ∃ ts, StarRun grammar evItemE (enumBodyCost items) (enumBodyK items tail) ts tail ∧ ts.length ≤ enumBodyCost items ∧
      ts.map (fun x => evEnumValue (nth x 0)) = items.map (fun p => p.1.raw)
  | [], tail, _, ht => ⟨[], .done ((FailsOn.seq (SeqFail.head (enumValue_fails tail ht))).mono (by decide)), by decide, rfl⟩
  | (v, g) :: r, tail, ⟨hv, hg, hend, hstop, hr⟩, ht => by
    obtain ⟨ts, hrun, hlen, hval⟩ := enumBody_run r tail hr ht
    obtain ⟨tv, hp, hul, hev⟩ := enumValue_parses v hv (g ++ enumBodyK r tail) hend
    obtain ⟨tsg, hstep⟩ := item_step hp (by decide) hg hstop hrun (by simp [enumBodyCost] : _ ≤ enumBodyCost ((v, g) :: r))
      (by simp [enumBodyCost]; omega)
    refine ⟨_, hstep, by simp [enumBodyCost]; omega, ?_⟩
    simp only [List.map_cons, hval, nth_item, hul, hev]

/-- A written enum: `enum` ga name gb `{` gc values `}` gd ge `;`. -/
structure SEnum where
  ga : List Char
  c : Char
  s : List Char
  gb : List Char
  gc : List Char
  items : List (SEnumValue × List Char)
  gd : List Char
  ge : List Char

namespace SEnum

def closeK (e : SEnum) (rest : List Char) : List Char := '}' :: (e.gd ++ (e.ge ++ (';' :: rest)))

def renderK (e : SEnum) (rest : List Char) : List Char :=
  ['e', 'n', 'u', 'm'] ++ (e.ga ++ (e.c :: e.s ++ (e.gb ++ ('{' :: (e.gc ++ enumBodyK e.items (e.closeK rest))))))

def Ok (e : SEnum) (rest : List Char) : Prop :=
  UGapText e.ga ∧ idStart e.c = true ∧ (∀ x ∈ e.s, idPart x = true) ∧ UUGapText e.gb ∧ UUGapText e.gc ∧
  UUStop (enumBodyK e.items (e.closeK rest)) ∧ EnumBodyOk e.items (e.closeK rest) ∧
  UGapText e.gd ∧ UUGapText e.ge ∧ UHead e.ge

/-- `2 * enumBodyCost`: the repetition needs the number of items plus the bound of an item
(`ParsesTo.star`), and there are at most `enumBodyCost` items (`enumBody_run`). -/
def cost (e : SEnum) : Nat :=
  2 * enumBodyCost e.items + 2 * e.ga.length + e.s.length + 2 * e.gb.length + 2 * e.gc.length + 2 * e.gd.length + 2 * e.ge.length + 100

end SEnum

/-- `Enum` on a written enum: the action's value has the name and the values numbered by `numberEnum`. -/
theorem enum_parses (e : SEnum) (rest : List Char) (hok : e.Ok rest) :
    ∃ t, ParsesTo grammar (.ref "Enum") (e.renderK rest) t rest (e.cost + 30) ∧
      evEnum t = { doc := none, name := e.c :: e.s, values := numberEnum 0 (e.items.map fun p => p.1.raw), anns := [] } := by
  obtain ⟨hga, hc, hs, hgb, hgc, hstop, hbody, hgd, hge, hgeh⟩ := hok
  obtain ⟨ts, hrun, hlen, hvals⟩ := enumBody_run e.items (e.closeK rest) hbody (HeadP.cons (by decide))
  obtain ⟨t2, h2⟩ := u_consumes e.ga (e.c :: e.s ++ (e.gb ++ ('{' :: (e.gc ++ enumBodyK e.items (e.closeK rest))))) hga.isGap
    (HeadP.cons (tokC_not_ws (idPart_tok (idStart_idPart hc))))
  obtain ⟨t4, t6, t9, t11, hblock⟩ := block_parses "values" (.star evItemE) e.c e.s e.gb e.gc _ e.gd e.ge rest hc hs hgb hgc hstop hgd hge hgeh
    (wb := 2 * enumBodyCost e.items) (cb := 2) ((ParsesTo.star hrun).mono (by omega)) (by decide)
  have hp := ParsesTo.ref lk_Enum (ParsesTo.act (ParsesTo.seq
    (SeqRun.consC (ParsesTo.lit_append ['e', 'n', 'u', 'm'] _) (by decide) (SeqRun.consA h2 (by decide) hblock))))
  refine ⟨_, hp.mono (by simp only [SEnum.cost]; fuel_le), ?_⟩
  simp [evEnum, FV.Act.get, FV.Act.body, findLab, evIdent, idTree, textOf, evAnns, isNil, kids, hvals]

end FV.PegIdl
