/-
Include resolution is by path, and a cache keyed injectively (by the path) is transparent.
-/
import FV.Model.IdlIncludes

namespace FV.Inc

variable {α : Type}

theorem deep_succ (n : Nat) (fs : FS α) (p : Path) : deep (n + 1) fs p =
    (match fs.lookup p with
     | none => none
     | some nd => (subsWith (deep n fs) (dirOf p) nd.includes).map (Deep.node p nd.payload)) := rfl

/-- What `deep` returns for a path is the file AT that path, and per include edge the meaning of the resolved path. -/
theorem deep_node (n : Nat) (fs : FS α) (p : Path) (d : Deep α) (h : deep n fs p = some d) :
    ∃ m nd subs, n = m + 1 ∧ fs.lookup p = some nd ∧ subsWith (deep m fs) (dirOf p) nd.includes = some subs ∧
      d = .node p nd.payload subs := by
  cases n with
  | zero => cases h
  | succ m =>
    rw [deep_succ] at h
    cases hl : fs.lookup p with
    | none => rw [hl] at h; cases h
    | some nd =>
      rw [hl] at h
      obtain ⟨subs, hs, rfl⟩ := Option.map_eq_some_iff.1 h
      exact ⟨m, nd, subs, rfl, rfl, hs, rfl⟩

theorem subsWith_mono {f g : Path → Option (Deep α)} (hfg : ∀ q d, f q = some d → g q = some d) (dir : Path) :
    ∀ (incs : List (String × Path)) (ds : List (String × Deep α)), subsWith f dir incs = some ds → subsWith g dir incs = some ds := by
  intro incs
  induction incs with
  | nil => intro ds h; simpa [subsWith] using h
  | cons e r ih =>
    obtain ⟨nm, inc⟩ := e
    intro ds h
    simp only [subsWith] at h ⊢
    cases h1 : f (joinPath dir inc) with
    | none => simp [h1] at h
    | some d =>
      cases h2 : subsWith f dir r with
      | none => simp [h1, h2] at h
      | some ds' =>
        simp only [h1, h2, Option.some.injEq] at h
        simp [hfg _ _ h1, ih ds' h2, h]

theorem deep_mono (fs : FS α) : ∀ (n : Nat) (p : Path) (d : Deep α), deep n fs p = some d → deep (n + 1) fs p = some d := by
  intro n
  induction n with
  | zero => intro p d h; simp [deep] at h
  | succ m ih =>
    intro p d h
    obtain ⟨m', nd, subs, hm, hl, hs, rfl⟩ := deep_node _ fs p d h
    have : m' = m := by omega
    subst this
    rw [deep_succ, hl]
    simp only []
    rw [subsWith_mono (ih) (dirOf p) nd.includes subs hs]
    rfl

theorem deep_mono_le (fs : FS α) {n m : Nat} (h : n ≤ m) (p : Path) (d : Deep α) (hd : deep n fs p = some d) : deep m fs p = some d := by
  obtain ⟨k, rfl⟩ := Nat.exists_eq_add_of_le h
  induction k with
  | zero => exact hd
  | succ k ih => exact deep_mono fs _ p d (ih (Nat.le_add_right _ _))

/-- Every cache entry is the meaning of a path with that key. -/
def CacheOk {κ : Type} [BEq κ] (key : Path → κ) (fs : FS α) (c : Cache κ α) : Prop :=
  ∀ k d, c.lookup k = some d → ∃ p m, key p = k ∧ deep m fs p = some d

theorem subsC_ok {κ : Type} [BEq κ] (key : Path → κ) (fs : FS α) (f : Cache κ α → Path → Option (Cache κ α × Deep α))
    (hf : ∀ c p c' d, CacheOk key fs c → f c p = some (c', d) → CacheOk key fs c' ∧ ∃ m, deep m fs p = some d) (dir : Path) :
    ∀ (incs : List (String × Path)) (c c' : Cache κ α) (ds : List (String × Deep α)), CacheOk key fs c →
      subsC f dir c incs = some (c', ds) → CacheOk key fs c' ∧ ∃ m, subsWith (deep m fs) dir incs = some ds := by
  intro incs
  induction incs with
  | nil =>
    intro c c' ds hc h
    simp only [subsC, Option.some.injEq, Prod.mk.injEq] at h
    obtain ⟨rfl, rfl⟩ := h
    exact ⟨hc, 0, rfl⟩
  | cons e r ih =>
    obtain ⟨nm, inc⟩ := e
    intro c c' ds hc h
    simp only [subsC] at h
    cases h1 : f c (joinPath dir inc) with
    | none => simp [h1] at h
    | some r1 =>
      obtain ⟨c1, d⟩ := r1
      simp only [h1] at h
      cases h2 : subsC f dir c1 r with
      | none => simp [h2] at h
      | some r2 =>
        obtain ⟨c2, ds'⟩ := r2
        simp only [h2, Option.some.injEq, Prod.mk.injEq] at h
        obtain ⟨rfl, rfl⟩ := h
        obtain ⟨hc1, m1, hd⟩ := hf c _ c1 d hc h1
        obtain ⟨hc2, m2, hds⟩ := ih c1 c2 ds' hc1 h2
        refine ⟨hc2, max m1 m2, ?_⟩
        simp only [subsWith]
        rw [deep_mono_le fs (Nat.le_max_left m1 m2) _ d hd,
          subsWith_mono (fun q d' h' => deep_mono_le fs (Nat.le_max_right m1 m2) q d' h') dir r ds' hds]

/-- A cache whose key is injective on paths is transparent: whatever it already holds (whatever was
visited before, in whatever order), `deepC` returns the meaning of the path, and keeps the cache sound. -/
theorem deepC_transparent {κ : Type} [BEq κ] [LawfulBEq κ] (key : Path → κ) (hinj : ∀ p q, key p = key q → p = q) (fs : FS α) :
    ∀ (n : Nat) (c : Cache κ α) (p : Path) (c' : Cache κ α) (d : Deep α), CacheOk key fs c → deepC key n fs c p = some (c', d) →
      CacheOk key fs c' ∧ ∃ m, deep m fs p = some d := by
  intro n
  induction n with
  | zero => intro c p c' d _ h; simp [deepC] at h
  | succ n ih =>
    intro c p c' d hc h
    simp only [deepC] at h
    cases hl : c.lookup (key p) with
    | some d0 =>
      simp only [hl, Option.some.injEq, Prod.mk.injEq] at h
      obtain ⟨rfl, rfl⟩ := h
      obtain ⟨p', m, hk, hd⟩ := hc _ _ hl
      rw [hinj _ _ hk] at hd
      exact ⟨hc, m, hd⟩
    | none =>
      simp only [hl] at h
      cases hf : fs.lookup p with
      | none => simp [hf] at h
      | some nd =>
        simp only [hf] at h
        cases hs : subsC (deepC key n fs) (dirOf p) c nd.includes with
        | none => simp [hs] at h
        | some r =>
          obtain ⟨c1, ds⟩ := r
          simp only [hs, Option.some.injEq, Prod.mk.injEq] at h
          obtain ⟨rfl, rfl⟩ := h
          obtain ⟨hc1, m, hds⟩ := subsC_ok key fs (deepC key n fs) ih (dirOf p) nd.includes c c1 ds hc hs
          have hd : deep (m + 1) fs p = some (.node p nd.payload ds) := by rw [deep_succ, hf]; simp only [hds]; rfl
          refine ⟨?_, m + 1, hd⟩
          intro k d' hk
          simp only [List.lookup] at hk
          by_cases hkk : k == key p
          · simp only [hkk] at hk
            injection hk with hk
            exact ⟨p, m + 1, (eq_of_beq hkk).symm, hk ▸ hd⟩
          · simp only [hkk] at hk
            exact hc1 k d' hk

end FV.Inc
