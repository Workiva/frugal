/-
The generic client path of FV.Model.Receivers3 (C05 (d)). `processReply_cases` says what `processReply` makes of every
reply; the C05 theorems about it are read off that one statement.
-/
import FV.Model.Receivers3
import FV.Proofs.Headers

namespace FV.Recv3
open FV

theorem bufSlice_ok {n : Int} (h0 : 0 ≤ n) (h : n ≤ 64) : bufSlice n = .ok n.toNat := if_pos ⟨h0, h⟩

theorem binReadString_no_panic (b : Bytes) : ∀ p, binReadString b ≠ .panic p := by
  refine Res.Ensures.ne_panic (P := fun _ => True) ?_
  unfold binReadString
  cases readI32 b with
  | none => trivial
  | some x =>
    obtain ⟨size, r⟩ := x
    dsimp only
    refine Res.ensures_ite (fun _ => trivial) fun h0 => Res.ensures_ite (fun _ => trivial) fun _ =>
      Res.ensures_ite (fun _ => trivial) fun _ => Res.ensures_ite (fun h64 => ?_) fun _ =>
      Res.ensures_ite (fun _ => trivial) fun _ => trivial
    -- the only partial operation: the scratch-array slice, reached with `0 < size < 64`
    rw [bufSlice_ok (by omega) (by omega)]
    exact Res.ensures_ite (fun _ => trivial) fun _ => trivial

theorem binMessageBegin_no_panic (b : Bytes) : ∀ p, binMessageBegin b ≠ .panic p := by
  refine Res.Ensures.ne_panic (P := fun _ => True) ?_
  unfold binMessageBegin
  cases readI32 b with
  | none => trivial
  | some x =>
    obtain ⟨size, r⟩ := x
    dsimp only
    refine Res.ensures_ite (fun _ => Res.ensures_ite (fun _ => trivial) fun _ => ?_) fun _ =>
      Res.ensures_ite (fun _ => trivial) fun _ => ?_
    · cases h : binReadString r with
      | panic p => exact binReadString_no_panic r p h
      | err _ => trivial
      | ok x => obtain ⟨name, r1⟩ := x; dsimp only; cases readI32 r1 <;> trivial
    · cases r.drop size.toNat with
      | nil => trivial
      | cons ty r1 => dsimp only; cases readI32 r1 <;> trivial

theorem dropOpId_no_opid (h : Hdrs) : ∀ kv ∈ dropOpId h, kv.1 ≠ opIdHeader := by
  intro kv hk
  unfold dropOpId at hk
  have := (List.mem_filter.mp hk).2
  simpa using this

/-- What `processReply` makes of every reply. A header block that does not parse: the `hdr` stage, nothing added
to the context. One that parses: its headers without `_opid` are added, and the `reply` stage is reached exactly
when what follows is a REPLY (type 2) envelope for this very method. -/
theorem processReply_cases (method reply : Bytes) :
    (∃ e, unmarshalStream reply = .err e ∧ processReply method reply = .ok ⟨[], .hdr e⟩) ∨
    (∃ hd rest st, unmarshalStream reply = .ok (hd, rest) ∧ processReply method reply = .ok ⟨dropOpId hd, st⟩ ∧
      (st = .reply ↔ ∃ r2, binMessageBegin rest = .ok (method, 2, r2))) := by
  unfold processReply
  cases h : unmarshalStream reply with
  | panic p => exact absurd h (unmarshalStream_no_panic reply p)
  | err e => exact .inl ⟨e, rfl, rfl⟩
  | ok x =>
    obtain ⟨hd, rest⟩ := x
    refine .inr ⟨hd, rest, ?_⟩
    dsimp only
    cases hm : binMessageBegin rest with
    | panic p => exact absurd hm (binMessageBegin_no_panic rest p)
    | err _ => exact ⟨_, rfl, rfl, by simp⟩
    | ok x =>
      obtain ⟨name, ty, r2⟩ := x
      dsimp only
      by_cases hn : name = method
      · subst hn
        rw [if_neg (by simp)]
        by_cases h3 : ty = 3
        · rw [if_pos h3]; exact ⟨_, rfl, rfl, by simp [h3]⟩
        · rw [if_neg h3]
          by_cases h2 : ty = 2
          · rw [if_neg (by simp [h2])]; exact ⟨_, rfl, rfl, by simp [h2]⟩
          · rw [if_pos h2]; exact ⟨_, rfl, rfl, by simp [h2]⟩
      · rw [if_pos hn]; exact ⟨_, rfl, rfl, by simp [hn]⟩

/-- `processReply` never panics, and it never fails as a function either: every reply is a stage. -/
theorem processReply_total (method reply : Bytes) : ∃ o, processReply method reply = .ok o := by
  rcases processReply_cases method reply with ⟨_, _, h⟩ | ⟨_, _, _, _, h, _⟩ <;> exact ⟨_, h⟩

end FV.Recv3
