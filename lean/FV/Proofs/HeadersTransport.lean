/-
`io.ReadFull` over any chunking returns exactly the next `n` bytes of the carried byte string (or fails when
fewer are left), hence `readHeaderT` over ANY transport is `unmarshalStream` of the bytes it carries.
-/
import FV.Model.HeadersTransport
import FV.Proofs.Headers

namespace FV

theorem readFull_cases (cs : List Bytes) (n : Nat) :
    (cs.flatten.length < n ∧ readFull cs n = none) ∨
    (n ≤ cs.flatten.length ∧ ∃ r, readFull cs n = some (cs.flatten.take n, r) ∧ r.flatten = cs.flatten.drop n) := by
  induction cs generalizing n with
  | nil =>
    rw [readFull]
    by_cases h : n = 0
    · subst h; exact .inr ⟨Nat.le_refl _, [], rfl, rfl⟩
    · exact .inl ⟨Nat.pos_of_ne_zero h, if_neg h⟩
  | cons c cs ih =>
    rw [readFull, List.flatten_cons, List.length_append]
    by_cases hc : n ≤ c.length
    · rw [if_pos hc, List.take_append_of_le_length hc, List.drop_append_of_le_length hc]
      exact .inr ⟨by omega, _, rfl, rfl⟩
    · rw [if_neg hc]
      rcases ih (n - c.length) with ⟨hl, e⟩ | ⟨hl, r, e, f⟩ <;> rw [e]
      · exact .inl ⟨by omega, rfl⟩
      · rw [List.take_append, List.drop_append, List.take_of_length_le (l := c) (by omega),
          List.drop_of_length_le (l := c) (by omega)]
        exact .inr ⟨by omega, r, rfl, f⟩

theorem readHeaderT_eq (t : RdTransport) : readHeaderT t = unmarshalStream t.bytes := by
  unfold readHeaderT RdTransport.bytes
  generalize t.chunks = cs
  -- the four guards of `unmarshalStream`, each against the `readFull` that stands for it in `readHeaderT`
  rcases readFull_cases cs 1 with ⟨h1, e1⟩ | ⟨h1, c1, e1, f1⟩ <;> rw [e1]
  · rw [List.eq_nil_of_length_eq_zero (Nat.lt_one_iff.mp h1)]; rfl  -- nothing to read: no version byte
  cases hb : cs.flatten with
  | nil => rw [hb] at h1; cases h1
  | cons ver r1 =>
    rw [hb] at f1
    simp only [List.take_succ_cons, List.take_zero, List.drop_succ_cons, List.drop_zero] at f1 ⊢
    subst f1
    unfold unmarshalStream
    by_cases hv : ver = 0  -- the version byte
    · subst hv
      simp only [ne_eq, not_true_eq_false, if_false]
      rcases readFull_cases c1 4 with ⟨h4, e2⟩ | ⟨h4, c2, e2, f2⟩ <;> rw [e2]
      · rw [if_pos h4]  -- fewer than 4 bytes for the size
      · rw [if_neg (by omega)]
        simp only
        rw [rd32_take4 _ h4, ← f2]
        refine ite_congr rfl (fun _ => rfl) fun hs => ?_  -- a negative size: the same test on both sides
        rcases readFull_cases c2 (toI32 (rd32 c1.flatten)).toNat with ⟨hl, e3⟩ | ⟨hl, c3, e3, f3⟩ <;> rw [e3]
        · rw [if_pos (by omega)]  -- fewer bytes than the size announces
        · rw [if_neg (by omega)]
          simp only
          rw [f3]
          rfl
    · have : [ver] ≠ [0] := by simpa using hv
      simp only [ne_eq, this, not_false_eq_true, if_true, hv]

theorem readRequestHeaderT_eq (t : RdTransport) (ctr : Nat) :
    readRequestHeaderT t ctr = readRequestHeader t.bytes ctr := by
  unfold readRequestHeaderT readRequestHeader
  rw [readHeaderT_eq]
  rfl

theorem readResponseHeaderT_eq (c : Ctx) (t : RdTransport) :
    readResponseHeaderT c t = readResponseHeader c t.bytes := by
  unfold readResponseHeaderT readResponseHeader
  rw [readHeaderT_eq]
  rfl

theorem chunksOf_flatten (k fuel : Nat) (b : Bytes) : (chunksOf k fuel b).flatten = b := by
  induction fuel generalizing b with
  | zero => simp [chunksOf]
  | succ f ih =>
    rw [chunksOf]
    by_cases h : b.length ≤ k
    · rw [if_pos h]; simp
    · rw [if_neg h, List.flatten_cons, ih, List.take_append_drop]

end FV
