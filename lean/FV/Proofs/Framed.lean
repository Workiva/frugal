/-
The cut-anywhere lemma for the framed read path (C15).
-/
import FV.Model.Framed
import FV.Proofs.Bytes
namespace FV.Framed
open FV

theorem encode_cons_length (f : Bytes) (t : List Bytes) : (encode (f :: t)).length = 4 + f.length + (encode t).length := by
  simp [encode, be32_length]; omega

theorem deframe_frame (f r : Bytes) (hf : f.length ≤ maxLength) :
    deframe (be32 f.length ++ (f ++ r)) = (f :: (deframe r).1, (deframe r).2) := by
  have hfl : f.length < 4294967296 := by unfold maxLength at hf; omega   -- 2^32: the size prefix has four bytes
  rw [deframe, rd32_be32 _ _ hfl]
  have hd : (be32 f.length ++ (f ++ r)).drop 4 = f ++ r := List.drop_left' (be32_length _)
  simp only [hd, List.length_append, be32_length, List.take_left', List.drop_left']
  rw [if_neg (by omega), if_neg (by omega), if_neg (by omega), if_neg (by omega)]

theorem deframe_partial (f r : Bytes) (hf : f.length ≤ maxLength) (n : Nat) (hn : n < 4 + f.length) :
    (deframe ((be32 f.length ++ (f ++ r)).take n)).1 = [] ∧ (deframe ((be32 f.length ++ (f ++ r)).take n)).2 ≠ .badSize := by
  have hfl : f.length < 4294967296 := by unfold maxLength at hf; omega   -- 2^32, as above
  have hlen : ((be32 f.length ++ (f ++ r)).take n).length = n := by
    simp only [List.length_take, List.length_append, be32_length]; omega
  rw [deframe, hlen]
  by_cases h0 : n = 0
  · rw [if_pos h0]; exact ⟨rfl, nofun⟩
  · rw [if_neg h0]
    by_cases h4 : n < 4
    · rw [if_pos h4]; exact ⟨rfl, nofun⟩
    · have : (be32 f.length ++ (f ++ r)).take n = be32 f.length ++ (f ++ r).take (n - 4) := by
        rw [List.take_append, be32_length, List.take_of_length_le (by rw [be32_length]; omega)]
      rw [if_neg h4, this, rd32_be32 _ _ hfl, if_neg (by omega), List.drop_left' (be32_length _),
        if_pos (by rw [List.length_take]; omega)]
      exact ⟨rfl, nofun⟩

theorem deframe_cut (fs : List Bytes) (hfs : ∀ f ∈ fs, f.length ≤ maxLength) (k : Nat) (hk : k ≤ (encode fs).length) :
    (deframe ((encode fs).take k)).1 = fs.take (wholeBefore fs k) ∧ (deframe ((encode fs).take k)).2 ≠ .badSize := by
  induction fs generalizing k with
  | nil => simp [encode] at hk ⊢; rw [deframe]; simp
  | cons f t ih =>
    have hf := hfs f (by simp)
    simp only [encode, wholeBefore, List.append_assoc]
    split
    · rename_i hle
      have : (be32 f.length ++ (f ++ encode t)).take k = be32 f.length ++ (f ++ (encode t).take (k - (4 + f.length))) := by
        rw [List.take_append, be32_length, List.take_of_length_le (by simp [be32_length]; omega), List.take_append,
          List.take_of_length_le (by omega)]
        congr 3; omega
      rw [this, deframe_frame f _ hf]
      have := ih (fun g hg => hfs g (by simp [hg])) (k - (4 + f.length)) (by rw [encode_cons_length] at hk; omega)
      rw [this.1, Nat.add_comm 1, List.take_succ_cons]
      exact ⟨rfl, this.2⟩
    · exact deframe_partial f _ hf k (by omega)
theorem wholeBefore_le (fs : List Bytes) (k : Nat) : wholeBefore fs k ≤ fs.length := by
  induction fs generalizing k with
  | nil => simp [wholeBefore]
  | cons f t ih => simp only [wholeBefore]; split <;> simp; have := ih (k - (4 + f.length)); omega

/-- Frames that `Execute` accepts are counted and the loop goes on with what follows. -/
theorem deliver_append (good l : List Bytes) (h : ∀ f ∈ good, (registryExecuteEmpty f).isOk = true) :
    deliver (good ++ l) = ((deliver l).1 + good.length, (deliver l).2) := by
  induction good with
  | nil => rfl
  | cons f t ih =>
    rw [List.cons_append, deliver, if_pos (h f (by simp)), ih fun g hg => h g (by simp [hg])]
    rfl

theorem deliver_all_ok (l : List Bytes) (h : ∀ f ∈ l, (registryExecuteEmpty f).isOk = true) : deliver l = (l.length, true) := by
  have := deliver_append l [] h
  rwa [List.append_nil, deliver, Nat.zero_add] at this
end FV.Framed
