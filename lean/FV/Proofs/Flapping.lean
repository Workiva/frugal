/-
Invariants of the runner-as-channel-consumer model under a flapping peer (C15).
-/
import FV.Model.Flapping
namespace FV.Flapping
open FV.Monitor

/-- In every run: every failure was reported, is waiting or was dropped, and a transport the monitor reopened has
its runner alive and nothing waiting. -/
structure FInv (s : Sys) : Prop where
  account : s.failures = s.reports + s.chan + s.dropped
  cap : s.chan ≤ 1
  openEmpty : s.isOpen = true → s.byMonitor = true → s.chan = 0
  aliveOpen : s.isOpen = true → s.byMonitor = true → s.alive = true

theorem finv_init (sc : List Outcome) : FInv (init sc) := by
  constructor <;> simp [init]

/-- Within its capacity the channel ends up holding one cause; one that was there already counts as dropped. -/
theorem post_eq {s : Sys} (h : s.chan ≤ 1) : post s = { s with chan := 1, dropped := s.dropped + s.chan } := by
  unfold post
  split
  · have : s.chan = 0 := by omega
    simp [this]
  · have : s.chan = 1 := by omega
    simp [this]

/-- What handling a report does to the state. -/
inductive Handled (s : Sys) : Sys → Prop
  /-- no runner, or nothing waiting: nothing happens -/
  | idle : Handled s s
  /-- the runner stops: somebody else had reopened the transport, or the policy says no, or it gives up -/
  | stops (r) : s.alive = true → s.chan = 1 →
      Handled s { s with chan := 0, reports := s.reports + 1, alive := false, script := r }
  /-- the closed transport is reopened for good -/
  | reopened (r) : s.alive = true → s.chan = 1 → s.isOpen = false →
      Handled s { s with chan := 0, reports := s.reports + 1, isOpen := true, byMonitor := true, script := r }
  /-- the reopened connection dies at once: a failure, and its cause is waiting again -/
  | flapped (r) : s.alive = true → s.chan = 1 → s.isOpen = false →
      Handled s { s with chan := 1, reports := s.reports + 1, isOpen := false, byMonitor := true,
                         failures := s.failures + 1, script := r }

theorem handle_cases (p : Policy) {s : Sys} (h : s.chan ≤ 1) : Handled s (step p s .handle) := by
  by_cases hc : s.alive = true ∧ s.chan = 1
  · obtain ⟨hal, hc⟩ := hc
    rw [step, if_neg (by simp [hal, hc])]
    simp only [hc, Nat.sub_self]
    split
    · exact .stops s.script hal hc    -- somebody else had reopened it
    · have ho : s.isOpen = false := by simpa using ‹¬ s.isOpen = true›
      split
      · exact .stops s.script hal hc  -- the policy says no
      · split
        · exact .stops _ hal hc         -- gave up
        · exact .reopened _ hal hc ho
        · rw [post_eq (Nat.zero_le 1)]; exact .flapped _ hal hc ho
  · rw [step, if_pos]
    · exact .idle
    · simp only [Bool.or_eq_true, Bool.not_eq_true', decide_eq_true_eq]
      cases hal : s.alive with
      | false => exact .inl rfl
      | true => exact .inr (by have : ¬ s.chan = 1 := fun e => hc ⟨hal, e⟩; omega)

theorem finv_step (p : Policy) {s : Sys} (h : FInv s) (a : Act) : FInv (step p s a) := by
  obtain ⟨h1, h2, h3, h4⟩ := h
  cases a with
  | fail =>
    simp only [step]
    split
    · rw [post_eq (by exact h2)]
      exact ⟨by simp only; omega, Nat.le_refl 1, (nomatch ·), (nomatch ·)⟩
    · exact ⟨h1, h2, h3, h4⟩
  | appOpen =>
    simp only [step]
    split
    · exact ⟨h1, h2, h3, h4⟩
    · exact ⟨h1, h2, fun _ => (nomatch ·), fun _ => (nomatch ·)⟩
  | handle =>
    have hh := handle_cases p h2
    generalize step p s .handle = t at hh ⊢
    cases hh with
    | idle => exact ⟨h1, h2, h3, h4⟩
    | stops r hal hc =>
      -- the transport was not reopened by the monitor, or its channel would be empty
      exact ⟨by simp only; omega, Nat.zero_le 1, fun _ _ => rfl, fun ho hb => by have := h3 ho hb; omega⟩
    | reopened r hal hc => exact ⟨by simp only; omega, Nat.zero_le 1, fun _ _ => rfl, fun _ _ => hal⟩
    | flapped r hal hc => exact ⟨by simp only; omega, Nat.le_refl 1, (nomatch ·), (nomatch ·)⟩

theorem finv_run (p : Policy) {s : Sys} (h : FInv s) (as : List Act) : FInv (run p s as) := by
  induction as generalizing s with
  | nil => exact h
  | cons a t ih => exact ih (finv_step p h a)

/-- In runs in which only the monitor reopens the transport: nothing is dropped, and a runner that has stopped
leaves a closed transport with nothing waiting. -/
structure MInv (s : Sys) : Prop where
  noDrop : s.dropped = 0
  openEmpty : s.isOpen = true → s.chan = 0
  deadClosed : s.alive = false → s.isOpen = false ∧ s.chan = 0

theorem minv_init (sc : List Outcome) : MInv (init sc) := by
  constructor <;> simp [init]

theorem minv_step (p : Policy) {s : Sys} (hf : FInv s) (h : MInv s) (a : Act) (ha : a ≠ .appOpen) : MInv (step p s a) := by
  obtain ⟨m1, m2, m3⟩ := h
  have hcap := hf.cap
  cases a with
  | appOpen => exact absurd rfl ha
  | fail =>
    simp only [step]
    split
    · rename_i ho
      have h0 := m2 ho
      rw [post_eq (by exact hcap)]
      exact ⟨by simp only; omega, (nomatch ·), fun hd => by have := (m3 hd).1; rw [ho] at this; cases this⟩
    · exact ⟨m1, m2, m3⟩
  | handle =>
    have hh := handle_cases p hcap
    generalize step p s .handle = t at hh ⊢
    cases hh with
    | idle => exact ⟨m1, m2, m3⟩
    | stops r hal hc =>
      have hcl : s.isOpen = false := by
        cases ho : s.isOpen with
        | false => rfl
        | true => have := m2 ho; omega
      exact ⟨m1, fun _ => rfl, fun _ => ⟨hcl, rfl⟩⟩
    | reopened r hal => exact ⟨m1, fun _ => rfl, fun hd => by rw [hal] at hd; cases hd⟩
    | flapped r hal => exact ⟨m1, (nomatch ·), fun hd => by rw [hal] at hd; cases hd⟩

theorem minv_run (p : Policy) {s : Sys} (hf : FInv s) (h : MInv s) (as : List Act) (hn : ∀ a ∈ as, a ≠ .appOpen) :
    MInv (run p s as) := by
  induction as generalizing s with
  | nil => exact h
  | cons a t ih =>
    exact ih (finv_step p hf a) (minv_step p hf h a (hn a (by simp))) (fun b hb => hn b (by simp [hb]))
end FV.Flapping
