/-
For C09. Header maps are compared through `Hdrs.get?`, which is all the code can observe of a Go map, so every map
operation gets its lookup equation. The decimal codec is read most significant digit first (`natDigits_eq`).
Numerals: 18446744073709551616 = 2^64 (op ids are uint64), 9223372036854775808 = 2^63 (the range of int64),
9223372036854 = ⌊2^63 / 10^6⌋ (the whole milliseconds of a `time.Duration`, which counts nanoseconds in an int64).
-/
import FV.Model.Context
import FV.Proofs.Headers
namespace FV

theorem natDigitsAux_append (n : Nat) : ∀ acc : Bytes, natDigitsAux n acc = natDigitsAux n [] ++ acc := by
  induction n using Nat.strongRecOn with
  | _ n ih =>
    intro acc
    rw [natDigitsAux]
    conv => rhs; rw [natDigitsAux]
    split
    · simp
    · rw [ih (n / 10) (by omega) (_ :: acc), ih (n / 10) (by omega) [_]]
      simp

/-- `FormatUint`, most significant digit first: the recursion that the accumulator version computes. -/
theorem natDigits_eq (n : Nat) :
    natDigits n = if n < 10 then [UInt8.ofNat (48 + n)] else natDigits (n / 10) ++ [UInt8.ofNat (48 + n % 10)] := by
  unfold natDigits
  rw [natDigitsAux]
  by_cases h : n < 10
  · rw [dif_pos h, if_pos h]
  · rw [dif_neg h, if_neg h, natDigitsAux_append]

theorem digitsVal_natDigits (n : Nat) : digitsVal (natDigits n) 0 = some n :=
  digitsVal_of_msf natDigits_eq n

theorem natDigits_head (n : Nat) : ∃ c t, natDigits n = c :: t ∧ 48 ≤ c.toNat ∧ c.toNat ≤ 57 := by
  induction n using Nat.strongRecOn with
  | _ n ih =>
    rw [natDigits_eq]
    by_cases h : n < 10
    · rw [if_pos h]; exact ⟨_, _, rfl, by rw [digit_toNat n h]; omega⟩
    · rw [if_neg h]
      obtain ⟨c, t, e, hc⟩ := ih (n / 10) (by omega)
      exact ⟨c, t ++ _, by rw [e]; rfl, hc⟩

theorem natDigits_ne_nil (n : Nat) : natDigits n ≠ [] := by
  obtain ⟨c, t, h, _⟩ := natDigits_head n
  rw [h]; simp

theorem natDigits_injective {a b : Nat} (h : natDigits a = natDigits b) : a = b := by
  have h1 := digitsVal_natDigits a
  rw [h, digitsVal_natDigits b] at h1
  exact (Option.some.inj h1).symm

theorem ne_some_natDigits {o : Option Bytes} {a b : Nat} (ho : o = some (natDigits a)) (h : a ≠ b) :
    o ≠ some (natDigits b) :=
  fun e => h (natDigits_injective (Option.some.inj (ho.symm.trans e)))

theorem parseU64_natDigits (n : Nat) (h : n < 18446744073709551616) : parseU64 (natDigits n) = some n := by
  unfold parseU64
  simp [natDigits_ne_nil, digitsVal_natDigits, h]

theorem parseI64_formatInt (z : Int) (hlo : -9223372036854775808 ≤ z) (hhi : z < 9223372036854775808) :
    parseI64 (formatInt z) = some z := by
  unfold formatInt
  split
  · rename_i hneg
    have hle : z.natAbs ≤ 9223372036854775808 := by omega
    simp [parseI64, natDigits_ne_nil, digitsVal_natDigits, hle]
    omega
  · rename_i hpos
    obtain ⟨c, t, hd, h1, h2⟩ := natDigits_head z.toNat
    have hv := digitsVal_natDigits z.toNat
    rw [hd] at hv
    rw [hd]
    have c43 : c ≠ 43 := by intro e; subst e; simp at h1
    have c45 : c ≠ 45 := by intro e; subst e; simp at h1
    have hlt : z.toNat < 9223372036854775808 := by omega
    simp [parseI64, c43, c45, hv, hlt]
    omega

theorem digitsVal_nondigit (s : Bytes) (c : UInt8) (hc : c ∈ s) (hnd : ¬ (48 ≤ c.toNat ∧ c.toNat ≤ 57)) :
    ∀ a, digitsVal s a = none := by
  induction s with
  | nil => cases hc
  | cons x t ih =>
    intro a
    simp only [digitsVal]
    split
    · rename_i hx
      rcases List.mem_cons.mp hc with e | hm
      · subst e; exact absurd hx hnd
      · exact ih hm _
    · rfl

/-- A header value containing a byte that is neither a decimal digit nor a sign is not a number. -/
theorem parseI64_nonnumeric (s : Bytes) (c : UInt8) (hc : c ∈ s) (hnd : ¬ (48 ≤ c.toNat ∧ c.toNat ≤ 57))
    (h43 : c ≠ 43) (h45 : c ≠ 45) : parseI64 s = none := by
  cases s with
  | nil => rfl
  | cons x t =>
    by_cases hx : x = 43 ∨ x = 45
    · have hct : c ∈ t := by
        rcases List.mem_cons.mp hc with e | hm
        · subst e; rcases hx with e | e <;> contradiction
        · exact hm
      simp only [parseI64, hx, if_true, digitsVal_nondigit t c hct hnd]
      split <;> rfl
    · simp only [parseI64, hx, if_false, digitsVal_nondigit (x :: t) c hc hnd]
      split <;> rfl

theorem parseI64_nil : parseI64 [] = none := rfl

theorem Hdrs.keys_set (h : Hdrs) (k v : Bytes) :
    (h.set k v).keys = if k ∈ h.keys then h.keys else h.keys ++ [k] := by
  induction h with
  | nil => simp [Hdrs.set, Hdrs.keys]
  | cons a t ih =>
    obtain ⟨k', v'⟩ := a
    by_cases e : k' = k
    · subst e; simp [Hdrs.set, Hdrs.keys]
    · have e' : ¬ k = k' := fun x => e x.symm
      simp only [Hdrs.set, e, if_false]
      simp only [Hdrs.keys, List.map_cons, List.mem_cons, e', false_or] at ih ⊢
      rw [ih]
      split <;> simp [*]

theorem Hdrs.nodup_set (h : Hdrs) (k v : Bytes) (hnd : h.keys.Nodup) : (h.set k v).keys.Nodup := by
  rw [Hdrs.keys_set]
  split
  · exact hnd
  · rename_i hk
    exact (List.perm_append_singleton k _).nodup_iff.mpr (List.nodup_cons.mpr ⟨hk, hnd⟩)

theorem Hdrs.nodup_setAll (R : Hdrs) : ∀ h : Hdrs, h.keys.Nodup → (h.setAll R).keys.Nodup := by
  induction R with
  | nil => intro h hnd; exact hnd
  | cons kv t ih => intro h hnd; exact ih _ (Hdrs.nodup_set h kv.1 kv.2 hnd)

theorem Hdrs.get?_none_of_not_mem (h : Hdrs) (k : Bytes) (hk : k ∉ h.keys) : h.get? k = none := by
  induction h with
  | nil => rfl
  | cons a t ih =>
    obtain ⟨k', v'⟩ := a
    simp only [Hdrs.keys, List.map_cons, List.mem_cons, not_or] at hk
    have e : ¬ k' = k := fun x => hk.1 x.symm
    simp only [Hdrs.get?, e, if_false]
    exact ih hk.2

theorem Hdrs.mem_keys_of_get? (h : Hdrs) (k v : Bytes) (hg : h.get? k = some v) : k ∈ h.keys := by
  apply Classical.byContradiction
  intro hk
  rw [Hdrs.get?_none_of_not_mem h k hk] at hg
  cases hg

theorem Hdrs.get?_setAll_not_mem (R : Hdrs) (k : Bytes) (hk : k ∉ R.keys) :
    ∀ h : Hdrs, (h.setAll R).get? k = h.get? k := by
  induction R with
  | nil => intro h; rfl
  | cons kv t ih =>
    intro h
    simp only [Hdrs.keys, List.map_cons, List.mem_cons, not_or] at hk
    show ((h.set kv.1 kv.2).setAll t).get? k = _
    rw [ih hk.2, Hdrs.get?_set_other h kv.1 kv.2 k (fun e => hk.1 e.symm)]

theorem Hdrs.get?_setAll (R : Hdrs) (hnd : R.keys.Nodup) (k : Bytes) :
    ∀ h : Hdrs, (h.setAll R).get? k = (R.get? k).or (h.get? k) := by
  induction R with
  | nil => intro h; rfl
  | cons kv t ih =>
    obtain ⟨k', v'⟩ := kv
    intro h
    simp only [Hdrs.keys, List.map_cons, List.nodup_cons] at hnd
    show ((h.set k' v').setAll t).get? k = _
    rw [ih hnd.2]
    by_cases e : k' = k
    · subst e
      rw [Hdrs.get?_cons_self, Hdrs.get?_none_of_not_mem t k' hnd.1, Hdrs.get?_set_same]; rfl
    · rw [Hdrs.get?_cons_ne _ _ e, Hdrs.get?_set_other h k' v' k e]

theorem Hdrs.get?_setAll_mem (R : Hdrs) (k v : Bytes) (hnd : R.keys.Nodup) (hm : (k, v) ∈ R) (h : Hdrs) :
    (h.setAll R).get? k = some v := by
  rw [Hdrs.get?_setAll R hnd, (Hdrs.get?_eq_some_iff R hnd k v).mpr hm]; rfl

theorem Hdrs.nodup_cons3 {a b c : Bytes} (x y z : Bytes) (U : Hdrs) (hab : a ≠ b) (hac : a ≠ c) (hbc : b ≠ c)
    (h0 : U.keys.Nodup) (ha : a ∉ U.keys) (hb : b ∉ U.keys) (hc : c ∉ U.keys) :
    (Hdrs.keys ((a, x) :: (b, y) :: (c, z) :: U)).Nodup := by
  simp only [Hdrs.keys, List.map_cons, List.nodup_cons, List.mem_cons, not_or]
  exact ⟨⟨hab, hac, ha⟩, ⟨hbc, hb⟩, hc, h0⟩

theorem Hdrs.without_cons_self (k v : Bytes) (t : Hdrs) : Hdrs.without ((k, v) :: t) k = t.without k :=
  List.filter_cons_of_neg (by simp)

theorem Hdrs.without_cons_ne {k' k : Bytes} (v : Bytes) (t : Hdrs) (h : k' ≠ k) :
    Hdrs.without ((k', v) :: t) k = (k', v) :: t.without k :=
  List.filter_cons_of_pos (by simpa using h)

theorem Hdrs.without_keys_sublist (h : Hdrs) (k : Bytes) : (h.without k).keys.Sublist h.keys :=
  (List.filter_sublist (l := h)).map Prod.fst

theorem Hdrs.nodup_without (h : Hdrs) (k : Bytes) (hnd : h.keys.Nodup) : (h.without k).keys.Nodup :=
  (Hdrs.without_keys_sublist h k).nodup hnd

theorem Hdrs.not_mem_without (h : Hdrs) (k : Bytes) : k ∉ (h.without k).keys := by
  intro hm
  obtain ⟨kv, hkv, rfl⟩ := List.mem_map.mp hm
  simpa using (List.mem_filter.mp hkv).2

theorem Hdrs.get?_without_other (h : Hdrs) (k k2 : Bytes) (hne : k ≠ k2) : (h.without k).get? k2 = h.get? k2 := by
  induction h with
  | nil => rfl
  | cons a t ih =>
    obtain ⟨k', v'⟩ := a
    by_cases e : k' = k
    · subst e; rw [Hdrs.without_cons_self, ih, Hdrs.get?_cons_ne _ _ hne]
    · rw [Hdrs.without_cons_ne _ _ e]
      by_cases e2 : k' = k2
      · subst e2; rw [Hdrs.get?_cons_self, Hdrs.get?_cons_self]
      · rw [Hdrs.get?_cons_ne _ _ e2, Hdrs.get?_cons_ne _ _ e2, ih]

theorem Hdrs.get?_without (h : Hdrs) (k k2 : Bytes) :
    (h.without k).get? k2 = if k = k2 then none else h.get? k2 := by
  by_cases e : k = k2
  · subst e; rw [if_pos rfl]; exact Hdrs.get?_none_of_not_mem _ _ (Hdrs.not_mem_without h k)
  · rw [if_neg e]; exact Hdrs.get?_without_other h k k2 e

theorem Hdrs.without_of_not_mem (h : Hdrs) (k : Bytes) (hk : k ∉ h.keys) : h.without k = h := by
  unfold Hdrs.without
  rw [List.filter_eq_self]
  intro a ha
  have : a.1 ∈ h.keys := List.mem_map_of_mem (f := Prod.fst) ha
  simp
  intro e; rw [e] at this; exact hk this

theorem Hdrs.without_perm (h h' : Hdrs) (k : Bytes) (hp : h.Perm h') : (h.without k).Perm (h'.without k) :=
  hp.filter _

theorem Hdrs.keys_perm (h h' : Hdrs) (hp : h.Perm h') : h.keys.Perm h'.keys := hp.map Prod.fst

theorem op_ne_cid : opIdHeader ≠ cidHeader := by decide
theorem op_ne_tmo : opIdHeader ≠ timeoutHeader := by decide
theorem cid_ne_tmo : cidHeader ≠ timeoutHeader := by decide

/-- The reply-side response headers `ReadRequestHeader` prepares. -/
def replyIds (opid cid : Bytes) : Hdrs := (opIdHeader, opid) :: (if cid = [] then [] else [(cidHeader, cid)])

theorem replyIds_get?_opid (opid cid : Bytes) : (replyIds opid cid).get? opIdHeader = some opid :=
  Hdrs.get?_cons_self ..

theorem replyIds_get?_cid (opid cid : Bytes) :
    (replyIds opid cid).get? cidHeader = if cid = [] then none else some cid := by
  rw [replyIds, Hdrs.get?_cons_ne _ _ op_ne_cid]
  split
  · rfl
  · exact Hdrs.get?_cons_self ..

theorem serverCtx_eq (h : Hdrs) (fresh : Nat) (o : Bytes) (hnd : h.keys.Nodup) (ho : h.get? opIdHeader = some o) :
    serverCtx h fresh = .ok ⟨h.without opIdHeader ++ [(opIdHeader, natDigits fresh)],
      replyIds o ((h.get? cidHeader).getD [])⟩ := by
  have hw := Hdrs.nodup_without h opIdHeader hnd
  have hcid : (((h.without opIdHeader).set opIdHeader (natDigits fresh)).get? cidHeader) = h.get? cidHeader := by
    rw [Hdrs.get?_set_other _ _ _ _ op_ne_cid, Hdrs.get?_without_other _ _ _ op_ne_cid]
  simp only [serverCtx, ho, Ctx.addRequestHeaders, Ctx.addResponseHeader, Ctx.addRequestHeader, Ctx.correlationID,
    Hdrs.setAll_nil _ hw, hcid]
  rw [Hdrs.set_fresh _ _ _ (Hdrs.not_mem_without h opIdHeader)]
  by_cases hc : (h.get? cidHeader).getD [] = []
  · simp [hc, replyIds, Hdrs.set]
  · simp [hc, replyIds, Hdrs.set, op_ne_cid]

theorem serverCtx_missing (h : Hdrs) (fresh : Nat) (ho : h.get? opIdHeader = none) :
    serverCtx h fresh = .err .invalidData := by
  simp [serverCtx, ho]

theorem clientCtx_req (cid : Bytes) (opid : Nat) (U : Hdrs) (ns : Int)
    (hU : U.keys.Nodup) (h1 : opIdHeader ∉ U.keys) (h2 : cidHeader ∉ U.keys) (h3 : timeoutHeader ∉ U.keys) :
    (clientCtx cid opid U ns []).req =
      (cidHeader, cid) :: (opIdHeader, natDigits opid) :: (timeoutHeader, encodeTimeout ns) :: U := by
  have hnd := Hdrs.nodup_cons3 cid (natDigits opid) defaultTimeoutHeader U op_ne_cid.symm cid_ne_tmo op_ne_tmo hU h2 h1 h3
  simp only [clientCtx, Ctx.new, Ctx.addRequestHeaders, Ctx.setTimeout, Ctx.addRequestHeader]
  rw [Hdrs.setAll_fresh U [(cidHeader, cid), (opIdHeader, natDigits opid), (timeoutHeader, defaultTimeoutHeader)] hnd]
  simp [Hdrs.setAll, Hdrs.set, op_ne_tmo, cid_ne_tmo]

theorem encodeTimeout_whole (ms : Int) : encodeTimeout (ms * 1000000) = formatInt ms := by
  unfold encodeTimeout nsPerMs
  rw [Int.mul_tdiv_cancel _ (by decide)]
  split
  · rename_i h
    obtain ⟨hpos, hz⟩ := h
    subst hz
    omega
  · rfl

/-- A positive timeout never encodes as "0" (which `ToContext` reads as "no deadline"): below the header's
resolution it is written as 1 ms. -/
theorem encodeTimeout_pos_ne_zero (ns : Int) (h : 0 < ns) (hhi : ns < 9223372036854775808) :
    encodeTimeout ns ≠ formatInt 0 := by
  -- a rendering that `parseI64` reads back as `z` is not that of 0 unless `z = 0`
  have key : ∀ z : Int, 0 ≤ z → z ≤ ns → formatInt z = formatInt 0 → z = 0 := fun z h0 h1 e => by
    have := congrArg parseI64 e
    rw [parseI64_formatInt z (by omega) (by omega), parseI64_formatInt 0 (by decide) (by decide)] at this
    exact Option.some.inj this
  unfold encodeTimeout
  split
  · exact fun e => absurd (key 1 (by decide) (by omega) e) (by decide)
  · rename_i hn
    exact fun e => hn ⟨h, key _ (Int.tdiv_nonneg (by omega) (by decide)) (Int.tdiv_le_self _ (by omega)) e⟩

theorem decodeTimeout_formatInt (ms : Int) (h0 : -9223372036854 ≤ ms) (h1 : ms ≤ 9223372036854) :
    decodeTimeout (formatInt ms) = ms * 1000000 := by
  unfold decodeTimeout decodeTimeoutMs
  rw [parseI64_formatInt ms (by omega) (by omega)]
  simp only [toI64, nsPerMs]
  omega

/-! ### Reading over the wire (stated for an arbitrary byte string `wire`, so that no proof
ever evaluates the codec on a concrete `marshal …`) -/

theorem readRequestHeader_ok (wire rest : Bytes) (h : Hdrs) (ctr : Nat) (c : Ctx)
    (hu : unmarshalStream wire = .ok (h, rest)) (hs : serverCtx h (ctr + 1) = .ok c) :
    readRequestHeader wire ctr = .ok (c, rest) := by
  unfold readRequestHeader
  rw [hu]
  simp only [hs]

theorem readRequestHeader_err (wire rest : Bytes) (h : Hdrs) (ctr : Nat) (e : Err)
    (hu : unmarshalStream wire = .ok (h, rest)) (hs : serverCtx h (ctr + 1) = .err e) :
    readRequestHeader wire ctr = .err e := by
  unfold readRequestHeader
  rw [hu]
  simp only [hs]

theorem ctrAfterRead_ok (wire : Bytes) (ctr : Nat) (x : Ctx × Bytes) (h : readRequestHeader wire ctr = .ok x) :
    ctrAfterRead wire ctr = ctr + 1 := by
  unfold ctrAfterRead
  rw [h]

theorem ctrAfterRead_err (wire : Bytes) (ctr : Nat) (e : Err) (h : readRequestHeader wire ctr = .err e) :
    ctrAfterRead wire ctr = ctr := by
  unfold ctrAfterRead
  rw [h]

/-- What `ReadResponseHeader` leaves under each name: the context's own `_opid`, otherwise the decoded value if
there is one, otherwise what the context held. -/
theorem mergeResponse_get? (c : Ctx) (d : Hdrs) (hnd : d.keys.Nodup) (k : Bytes) :
    (mergeResponse c d).resp.get? k =
      if opIdHeader = k then c.resp.get? k else (d.get? k).or (c.resp.get? k) := by
  show Hdrs.get? (Hdrs.setAll c.resp (d.without opIdHeader)) k = _
  rw [Hdrs.get?_setAll _ (Hdrs.nodup_without d opIdHeader hnd), Hdrs.get?_without]
  split <;> rfl

theorem readResponseHeader_ok (c : Ctx) (wire rest : Bytes) (h : Hdrs)
    (hu : unmarshalStream wire = .ok (h, rest)) :
    readResponseHeader c wire = .ok (mergeResponse c h, rest) := by
  unfold readResponseHeader
  rw [hu]

end FV
