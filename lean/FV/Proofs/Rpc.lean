/- `FV.Rpc.callQ` (the call path with queue wait and FContext timeout) against `FV.Rpc.call`: the two times never
reach the server side, so the handler's invocations are those of `call`; only what a two-way caller observes
depends on them. -/
import FV.Model.Rpc

namespace FV.Rpc
open FV FV.Thrift

theorem callQ_calls (d : Defs) (n : Nat) (key : String) (oneway : Bool) (args : Val)
    (h : Val → HOutcome) (wait timeout : Nat) :
    (callQ d n key oneway args h wait timeout).calls = (call d n key oneway args h).calls ∧
    (callQ d n key oneway args h wait timeout).args = (call d n key oneway args h).args := by
  unfold callQ
  split <;> simp

theorem call_calls_le_one (d : Defs) (n : Nat) (key : String) (oneway : Bool) (args : Val)
    (h : Val → HOutcome) : (call d n key oneway args h).calls ≤ 1 := by
  unfold call
  dsimp only
  cases encV d n (Ty.struct (key ++ "_args")) args with
  | err e | panic p => exact Nat.zero_le 1
  | ok es =>
    dsimp only
    cases decV d n (Ty.struct (key ++ "_args")) es with
    | err e | panic p => exact Nat.zero_le 1
    | ok p =>
      -- the handler has run: every outcome is reported with `calls := 1`
      dsimp only
      split
      · exact Nat.le_refl 1
      · split <;> exact Nat.le_refl 1

theorem callQ_eq_call_of_in_time (d : Defs) (n : Nat) (key : String) (args : Val)
    (h : Val → HOutcome) (wait timeout : Nat) (hw : wait < timeout) :
    callQ d n key false args h wait timeout = call d n key false args h := by
  unfold callQ
  simp [hw]

theorem callQ_timedOut_of_late (d : Defs) (n : Nat) (key : String) (args : Val)
    (h : Val → HOutcome) (wait timeout : Nat) (hw : timeout ≤ wait) (hs : sent d n key args = true) :
    (callQ d n key false args h wait timeout).result = .timedOut := by
  unfold callQ
  have : ¬ wait < timeout := by omega
  simp [this, hs]

theorem callQ_oneway_eq_call (d : Defs) (n : Nat) (key : String) (args : Val)
    (h : Val → HOutcome) (wait timeout : Nat) :
    callQ d n key true args h wait timeout = call d n key true args h := by
  unfold callQ
  simp
end FV.Rpc
