/-
Handler scripts of C09 (Model/ContextOnward.lean): a response header, once set, is never removed, neither by `set` or
`setAll` nor by the reply of an onward call. Stated with `isSome`, so that it composes along a script.
-/
import FV.Model.ContextOnward
import FV.Proofs.Context
namespace FV

/-- `set` and `setAll` overwrite values, they never remove a name. -/
theorem Hdrs.get?_set_isSome (a : Hdrs) (k' v k : Bytes) (h : (a.get? k).isSome) : ((a.set k' v).get? k).isSome := by
  by_cases e : k' = k
  · rw [← e, Hdrs.get?_set_same]; rfl
  · rwa [Hdrs.get?_set_other a k' v k e]

theorem Hdrs.get?_setAll_isSome (R : Hdrs) : ∀ (a : Hdrs) (k : Bytes),
    (a.get? k).isSome → ((a.setAll R).get? k).isSome := by
  induction R with
  | nil => intro a k h; exact h
  | cons kv t ih => intro a k h; exact ih _ k (Hdrs.get?_set_isSome a kv.1 kv.2 k h)

theorem readResponseHeader_eq_ok (c : Ctx) (wire : Bytes) (c' : Ctx) (rest : Bytes)
    (h : readResponseHeader c wire = .ok (c', rest)) :
    ∃ d, unmarshalStream wire = .ok (d, rest) ∧ c' = mergeResponse c d := by
  unfold readResponseHeader at h
  split at h
  · next d r hu => cases h; exact ⟨d, hu, rfl⟩
  · cases h
  · cases h

/-- A script never removes a response header, provided the reply step of an onward call does not. -/
theorem runActsW_keeps (req : Ctx → Nat → Res (Ctx × Bytes)) (rep : Ctx → Ctx → Res (Ctx × Bytes))
    (hrep : ∀ cc s cc' rest, rep cc s = .ok (cc', rest) → ∀ k, (cc.resp.get? k).isSome → (cc'.resp.get? k).isSome)
    (acts : List HAct) (c : Ctx) (ctr : Nat) :
    ∀ c' ctr' tr, runActsW req rep acts c ctr = .ok (c', ctr', tr) →
      ∀ k, (c.resp.get? k).isSome → (c'.resp.get? k).isSome := by
  fun_induction runActsW req rep acts c ctr
  case case1 c ctr => intro c' ctr' tr h k hk; cases h; exact hk  -- the empty script
  case case2 k0 v0 t c ctr ih =>  -- `setResp k0 v0`, then the rest
    intro c' ctr' tr h k hk; exact ih c' ctr' tr h k (Hdrs.get?_set_isSome _ k0 v0 k hk)
  case case3 k0 v0 t c ctr ih => exact ih  -- `setReq`: the response headers are not touched
  case case12 clone _ _ c _ cc _ _ _ _ s1 _ _ _ cc1 r1 hr c1 ctr3 tr2 ht _ ih1 =>
    -- an onward call that returns, then the rest: with a clone the context goes on as it is, otherwise it is what
    -- the reply step made of it
    intro c' ctr' tr h k hk
    cases h
    cases hc : clone with
    | true =>
      simp only [hc] at ih1 ht
      exact ih1 c1 ctr3 tr2 ht k hk
    | false =>
      simp only [hc] at ih1 ht hr
      have hcc : cc = c := by simp [cc, hc]
      rw [hcc] at hr
      exact ih1 c1 ctr3 tr2 ht k (hrep c s1 cc1 r1 hr k hk)
  -- cases 4 to 11: the request step, the downstream script, the reply step or the rest of the script ends with an
  -- error or a panic, and so does the whole script
  all_goals (intro c' ctr' tr h; cases h)

end FV
