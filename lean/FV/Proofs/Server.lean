/-
Helper lemmas for C14's server part: the framed reader does not depend on the chunking of the
stream; a connection's state depends only on its own requests and on how often it was scheduled.
-/
import FV.Model.Server
import FV.Proofs.Bytes

namespace FV.Chunked
open FV

/-- One round of `deframe`: a whole frame of acceptable size at the head of `a` is cut off. -/
theorem deframe_whole (maxLen : Nat) (a : Bytes) (hs : rd32 a ≤ maxLen) (hl : 4 + rd32 a ≤ a.length) :
    deframe maxLen a =
      ((a.drop 4).take (rd32 a) :: (deframe maxLen (a.drop (4 + rd32 a))).1, (deframe maxLen (a.drop (4 + rd32 a))).2) := by
  rw [deframe, dif_neg (by omega), if_neg (by omega), dif_neg (by omega)]

theorem deframe_append (maxLen : Nat) (a b : Bytes) :
    deframe maxLen (a ++ b) =
      ((deframe maxLen a).1 ++ (feed maxLen (deframe maxLen a).2 b).1, (feed maxLen (deframe maxLen a).2 b).2) := by
  fun_induction deframe maxLen a with
  | case1 a h => rfl  -- fewer than 4 bytes: all of `a` is pending
  | case2 a h size hs =>  -- size above `maxLen`
    rw [deframe, dif_neg (by rw [List.length_append]; omega), rd32_append a b (by omega), if_pos hs]
    rfl
  | case3 a h size hs h2 => rfl  -- incomplete frame: all of `a` is pending
  | case4 a h size hs h2 r ih =>  -- a whole frame
    have hl : 4 + rd32 a ≤ a.length := by omega
    rw [deframe_whole maxLen (a ++ b) (by rw [rd32_append a b (by omega)]; omega)
        (by rw [rd32_append a b (by omega), List.length_append]; omega),
      rd32_append a b (by omega), List.drop_append_of_le_length hl, ih,
      List.drop_append_of_le_length (by omega), List.take_append_of_le_length (by rw [List.length_drop]; omega)]
    rfl

theorem feedAll_bad (maxLen : Nat) (chunks : List Bytes) : feedAll maxLen .bad chunks = ([], .bad) := by
  induction chunks with
  | nil => rfl
  | cons c cs ih => simp [feedAll, feed, ih]

/-- The bytes `deframe` leaves pending hold no further frame: deframed again they yield nothing and stay pending. -/
theorem deframe_pending_tail (maxLen : Nat) (a q : Bytes) (h : (deframe maxLen a).2 = .pending q) :
    deframe maxLen q = ([], .pending q) := by
  fun_induction deframe maxLen a with
  | case1 a h1 => simp at h; subst h; rw [deframe]; simp [h1]  -- fewer than 4 bytes
  | case2 a h1 size hs => simp at h  -- size above `maxLen`: the tail is `bad`, not pending
  | case3 a h1 size hs h2 =>  -- incomplete frame
    simp at h; subst h; rw [deframe]
    simp only [h1, dite_false]
    have hs' : ¬ rd32 a > maxLen := by simpa [size] using hs
    have h2' : a.length < 4 + rd32 a := by simpa [size] using h2
    simp [hs', h2']
  | case4 a h1 size hs h2 r ih => exact ih h  -- a whole frame: the tail is that of the rest

theorem feedAll_eq (maxLen : Nat) (p : Bytes) (chunks : List Bytes) (hp : deframe maxLen p = ([], .pending p)) :
    feedAll maxLen (.pending p) chunks = deframe maxLen (p ++ chunks.flatten) := by
  induction chunks generalizing p with
  | nil => simp [feedAll, hp]
  | cons c cs ih =>
    simp only [feedAll, feed, List.flatten_cons]
    rw [← List.append_assoc, deframe_append maxLen (p ++ c) cs.flatten]
    cases ht : (deframe maxLen (p ++ c)).2 with
    | bad => simp [feedAll_bad, feed]
    | pending q => simp [ih q (deframe_pending_tail maxLen _ q ht), feed]

theorem deframe_nil (maxLen : Nat) : deframe maxLen [] = ([], .pending []) := by rw [deframe]; simp

/-- `4294967296` = 2^32: the size of a frame fits its four-byte prefix. -/
theorem deframe_enframe (maxLen : Nat) (fs : List Bytes) (rest : Bytes)
    (hl : ∀ f ∈ fs, f.length ≤ maxLen ∧ f.length < 4294967296) :
    deframe maxLen (enframe fs ++ rest) = (fs ++ (deframe maxLen rest).1, (deframe maxLen rest).2) := by
  induction fs with
  | nil => rfl
  | cons f t ih =>
    have hf := hl f (by simp)
    have he : enframe (f :: t) ++ rest = be32 f.length ++ (f ++ (enframe t ++ rest)) := by
      simp [enframe]
    have hr := rd32_be32 f.length (f ++ (enframe t ++ rest)) hf.2
    rw [he, deframe_whole _ _ (by omega) (by simp only [hr, List.length_append, be32_length]; omega), hr,
      List.drop_left' (be32_length _), List.take_left' rfl, ← List.append_assoc,
      List.drop_left' (by rw [List.length_append, be32_length]), ih fun x hx => hl x (List.mem_cons_of_mem _ hx)]
    rfl

end FV.Chunked

namespace FV.Proc

theorem iter_fixed {α : Type} (f : α → α) (a : α) (h : f a = a) : ∀ n, iter f n a = a
  | 0 => rfl
  | n + 1 => by rw [iter, h, iter_fixed f a h n]

/-- A product of machines that do not interact (any state type, any step function): after any schedule, component `i`
is its own start state stepped as often as it was scheduled. -/
theorem modRun_conn {α : Type} (f : α → α) (s : List α) (sched : List Nat) (i : Nat) :
    (sched.foldl (fun s j => s.modify j f) s)[i]? = (s[i]?).map (iter f (sched.count i)) := by
  induction sched generalizing s with
  | nil => simp [iter]
  | cons j t ih =>
    simp only [List.foldl_cons]
    rw [ih (s.modify j f)]
    simp only [List.getElem?_modify, List.count_cons]
    by_cases hji : j = i
    · subst hji; cases s[j]? <;> simp [iter]
    · have : (j == i) = false := by simpa using hji
      cases s[i]? <;> simp [this, hji]

theorem connStep_dead (pm : ProcMap) (c : ConnSt) (h : c.alive = false) : connStep pm c = c := by
  unfold connStep; cases c.todo <;> simp [h]

theorem iter_conn (pm : ProcMap) (rs : List (Request × HOutcome)) (acc : List (List ReplyMsg × Res Unit)) (n : Nat)
    (hn : rs.length ≤ n) :
    (iter (connStep pm) n ⟨rs, acc, true⟩).out = acc ++ processConn pm rs := by
  induction rs generalizing acc n with
  | nil => rw [iter_fixed _ _ rfl]; simp [processConn]
  | cons r t ih =>
    cases n with
    | zero => simp at hn
    | succ n =>
      simp only [iter, connStep, processConn]
      by_cases hk : ((process pm r.1 r.2).2.isOk && positionKept pm r.1) = true
      · simp only [hk, if_true]
        simp [ih (acc ++ [process pm r.1 r.2]) n (by simpa using hn)]
      · have hk' : ((process pm r.1 r.2).2.isOk && positionKept pm r.1) = false := by simpa using hk
        simp only [hk', Bool.not_true, Bool.false_eq_true, if_false]
        rw [iter_fixed _ _ (connStep_dead pm _ rfl)]

theorem iter_eph (c : List EphScript) (acc : List EphObs) (st : Hdrs) (n : Nat) (hn : c.length ≤ n) :
    (iter ephStep n ⟨c, acc, st⟩).seen = acc ++ (ephProtocol st c).1 := by
  induction c generalizing acc st n with
  | nil => rw [iter_fixed _ _ rfl]; simp [ephProtocol]
  | cons s t ih =>
    cases n with
    | zero => simp at hn
    | succ n =>
      simp only [iter, ephStep, ephProtocol]
      rw [ih _ _ n (by simpa using hn)]
      simp

end FV.Proc
