/-
For C19: the model's insertion sort returns a sorted permutation (so it is one of the results an
unstable sort may return), inserting into a map commutes for entries that agree on equal keys,
the traversal depends on the include lists and maps only through `orderedIncludes` and `alookup`,
and the emitted paths are the output root followed by paths that mention no location.
-/
import FV.Model.Determinism
import FV.Proofs.ListAux
namespace FV.Determinism

theorem insertBy_perm (le : α → α → Bool) (a : α) (l : List α) : (insertBy le a l).Perm (a :: l) := by
  induction l with
  | nil => exact List.Perm.refl _
  | cons b t ih =>
    simp only [insertBy]
    split
    · exact List.Perm.refl _
    · exact (List.Perm.cons b ih).trans (List.Perm.swap a b t)

theorem sortBy_perm (le : α → α → Bool) (l : List α) : (sortBy le l).Perm l := by
  induction l with
  | nil => exact List.Perm.refl _
  | cons a t ih =>
    show (insertBy le a (sortBy le t)).Perm (a :: t)
    exact (insertBy_perm le a _).trans (List.Perm.cons a ih)

theorem insertBy_sorted (le : α → α → Bool)
    (total : ∀ a b, le a b = true ∨ le b a = true) (trans : ∀ a b c, le a b = true → le b c = true → le a c = true)
    (a : α) (l : List α) (h : l.Pairwise (fun x y => le x y = true)) :
    (insertBy le a l).Pairwise (fun x y => le x y = true) := by
  induction l with
  | nil => simp [insertBy]
  | cons b t ih =>
    simp only [insertBy]
    have hb := List.pairwise_cons.mp h
    split
    · rename_i hab
      refine List.pairwise_cons.mpr ⟨?_, h⟩
      intro c hc
      rcases List.mem_cons.mp hc with rfl | hc
      · exact hab
      · exact trans _ _ _ hab (hb.1 c hc)
    · rename_i hab
      have hba : le b a = true := (total a b).resolve_left hab
      refine List.pairwise_cons.mpr ⟨?_, ih hb.2⟩
      intro c hc
      have := (insertBy_perm le a t).subset hc
      rcases List.mem_cons.mp this with rfl | hc
      · exact hba
      · exact hb.1 c hc

theorem sortBy_sorted (le : α → α → Bool)
    (total : ∀ a b, le a b = true ∨ le b a = true) (trans : ∀ a b c, le a b = true → le b c = true → le a c = true)
    (l : List α) : (sortBy le l).Pairwise (fun x y => le x y = true) := by
  induction l with
  | nil => exact List.Pairwise.nil
  | cons a t ih => exact insertBy_sorted le total trans a _ ih

theorem sortBy_isSortOf (le : α → α → Bool)
    (total : ∀ a b, le a b = true ∨ le b a = true) (trans : ∀ a b c, le a b = true → le b c = true → le a c = true) (l : List α) : IsSortOf le l (sortBy le l) :=
  ⟨sortBy_perm le l, sortBy_sorted le total trans l⟩

theorem alookup_eq_some_iff [DecidableEq κ] {k : κ} {v : β} :
    ∀ {m : AMap κ β}, (m.map Prod.fst).Nodup → (alookup k m = some v ↔ (k, v) ∈ m)
  | [], _ => by simp [alookup]
  | (k', v') :: t, hnd => by
    rw [List.map_cons, List.nodup_cons] at hnd
    rw [alookup, List.mem_cons, Prod.mk.injEq]
    by_cases e : k' = k
    · subst e
      have : (k', v) ∉ t := fun ht => hnd.1 (List.mem_map.mpr ⟨_, ht, rfl⟩)
      simp [this, eq_comm]
    · simp [e, Ne.symm e, alookup_eq_some_iff hnd.2]

theorem insert_comm [DecidableEq κ] (m : FMap κ β) (x y : κ × β) (h : x.1 = y.1 → x.2 = y.2) :
    (m.insert x).insert y = (m.insert y).insert x := by
  funext z
  simp only [FMap.insert]
  by_cases hy : z = y.1 <;> by_cases hx : z = x.1
  · rw [if_pos hy, if_pos hx, h (hx.symm.trans hy)]
  · rw [if_pos hy, if_neg hx, if_pos hy]
  · rw [if_neg hy, if_pos hx, if_pos hx]
  · rw [if_neg hy, if_neg hx, if_neg hx, if_neg hy]

theorem genRec_congr (p p' : Prog) (uv : Bool)
    (h1 : ∀ n, orderedIncludes (p'.incs n) = orderedIncludes (p.incs n))
    (h2 : ∀ n k, alookup k (p'.parsed n) = alookup k (p.parsed n)) :
    ∀ fuel n acc, genRec p' uv fuel n acc = genRec p uv fuel n acc := by
  intro fuel
  induction fuel with
  | zero => intro n acc; rfl
  | succ f ih =>
    intro n acc
    simp only [genRec, h1, h2, ih]

theorem absPath_append (cwd : Path) (b : Bool) (p q : Path) : absPath cwd b (p ++ q) = absPath cwd b p ++ q := by
  unfold absPath; split <;> simp [List.append_assoc]

theorem relTo_append (b r : Path) : relTo b (b ++ r) = some r := by
  unfold relTo
  have : b.isPrefixOf (b ++ r) = true := by
    rw [List.isPrefixOf_iff_prefix]; exact List.prefix_append b r
  simp [this]

theorem emittedAbs_eq (i : Invocation) (us : List GenUnit) :
    emittedAbs i us = (emittedRel us).map (fun r => i.outRoot ++ r) := by
  unfold emittedAbs emittedRel Invocation.outRoot outputDir
  induction us with
  | nil => rfl
  | cons u t ih =>
    simp only [List.flatMap_cons, List.map_append, ih, List.map_map]
    congr 1
    apply List.map_congr_left
    intro f _
    simp [absPath_append, List.append_assoc]

theorem strLe_antisymm (a b : String) (h₁ : strLe a b = true) (h₂ : strLe b a = true) : a = b := by
  unfold strLe at *
  exact String.le_antisymm (of_decide_eq_true h₁) (of_decide_eq_true h₂)

end FV.Determinism
