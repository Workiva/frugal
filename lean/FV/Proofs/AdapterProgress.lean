/-
Enabledness and progress lemmas for the adapter transport model (C15): the mutex holder can
always move, a failing read loop runs to its end, and the only closing steps are close()'s.
-/
import FV.Model.Adapter
import FV.Proofs.Adapter
namespace FV.Adapter

/-- What is left of `close()` for the goroutine that holds the mutex, after `doClose`. -/
def Pid.finish : Pid → Sys → Sys
  | .call i, t => setCall t i (.done .ok)
  | .loop k, t => setLoop t k .done

/-- The mutex holder is always enabled: its step is the second half of `close()`. -/
theorem holder_step {s : Sys} (h : SysInv s) {p : Pid} (hmu : s.mu = some p) :
    ∃ w, step s p.act = some (p.finish (doClose s w)) := by
  have hz := curSig_zero h (h.muOpen (by simp [hmu]))
  cases p with
  | call i => exact ⟨.user, by simp [Pid.act, Pid.finish, step, h.muCall i hmu, hz, closeSignalCap]⟩
  | loop k =>
    obtain ⟨w, hw⟩ := h.muLoop k hmu
    exact ⟨w, by simp [Pid.act, Pid.finish, step, show s.incs[k]?.map Inc.loop = _ from hw, hz, closeSignalCap]⟩

theorem finish_mu (p : Pid) (s : Sys) (w : Closer) : (p.finish (doClose s w)).mu = none := by
  cases p <;> rfl

theorem finish_loopPc {s : Sys} (hf : s.fresh = true) (p : Pid) (w : Closer) {k : Nat} {pc : LPc}
    (hk : s.loopPc k = some pc) (hpc : pc ≠ .reading) :
    (p.finish (doClose s w)).loopPc k = some (if p = .loop k then .done else pc) := by
  have : (doClose s w).loopPc k = some pc := by rw [doClose_loopPc s hf, hk]; simp [hpc]
  cases p with
  | call i => simpa [Pid.finish, Sys.loopPc] using this
  | loop j =>
    simp only [Pid.finish, loopPc_setLoop, Pid.loop.injEq]
    split <;> simp [this]

theorem call_enabled_of_free {s : Sys} (h : SysInv s) (hmu : s.mu = none) (i : Nat) (c : Call)
    (hc : s.calls[i]? = some c) (hp : ∀ r, c.pc ≠ .done r) : (step s (.callStep i true)).isSome = true := by
  obtain ⟨kind, pc⟩ := c
  cases pc with
  | done r => exact absurd rfl (hp r)
  | atSignal => have := h.callAt i _ hc rfl; simp [hmu] at this
  | start =>
    cases kind <;> simp [step, hc, hmu] <;> split <;> simp

theorem loop_finishes_free {s : Sys} (h : IndInv s) (hmu : s.mu = none) (k : Nat)
    (hk : (∃ ev, s.loopPc k = some (.onerror ev)) ∨ (∃ w, s.loopPc k = some (.closing w))) :
    ∃ n s', n ≤ 3 ∧ run s (List.replicate n (.loopStep k)) = some s' ∧ s'.loopPc k = some .done := by
  have fromClosing : ∀ (t : Sys), IndInv t → t.mu = none → ∀ w, t.loopPc k = some (.closing w) →
      ∃ n s', n ≤ 2 ∧ run t (List.replicate n (.loopStep k)) = some s' ∧ s'.loopPc k = some .done := by
    intro t ht htmu w hw
    have hw' : t.incs[k]?.map Inc.loop = some (.closing w) := hw
    by_cases ho : t.isOpen = true
    · -- takes the mutex, then closes
      let t1 := setLoop { t with mu := some (.loop k) } k (.atSignal w)
      have hst : step t (.loopStep k) = some t1 := by simp [step, hw', htmu, ho, t1]
      have ht1 := inv_step ht (step_sound hst)
      have hpc1 : t1.loopPc k = some (.atSignal w) := by
        simp only [t1, loopPc_setLoop, if_true]
        have : ({ t with mu := some (Pid.loop k) } : Sys).loopPc k = t.loopPc k := rfl
        rw [this, hw]; simp
      obtain ⟨w', hst2⟩ := holder_step ht1.sysInv (p := .loop k) rfl
      refine ⟨2, _, by omega, by simp [List.replicate, run, hst]; exact hst2, ?_⟩
      rw [finish_loopPc ht1.fresh _ _ hpc1 (by simp), if_pos rfl]
    · have hst : step t (.loopStep k) = some (setLoop t k .done) := by simp [step, hw', htmu, ho]
      refine ⟨1, setLoop t k .done, by omega, ?_, ?_⟩
      · simp [List.replicate, run, hst]
      · rw [loopPc_setLoop, hw]; simp
  rcases hk with ⟨ev, hev⟩ | ⟨w, hw⟩
  · have hev' : s.incs[k]?.map Inc.loop = some (.onerror ev) := hev
    by_cases hp : s.sigOf k > 0
    · have hst : step s (.loopStep k) = some (setLoop (s.setSig k (s.sigOf k - 1)) k .done) := by
        simp [step, hev', hp]
      refine ⟨1, setLoop (s.setSig k (s.sigOf k - 1)) k .done, by omega, ?_, ?_⟩
      · simp [List.replicate, run, hst]
      · rw [loopPc_setLoop, setSig_eq h.fresh,
          loopPc_modInc s k (g := fun i => { i with sig := s.sigOf k - 1 }) (fun _ => rfl), hev]; simp
    · let w : Closer := if ev = .eof then .peerEof else .failure
      have hst : step s (.loopStep k) = some (setLoop s k (.closing w)) := by simp [step, hev', hp, w]
      have h1 := inv_step h (step_sound hst)
      have hpc : (setLoop s k (.closing w)).loopPc k = some (.closing w) := by rw [loopPc_setLoop, hev]; simp
      obtain ⟨n, s', hn, hrun, hdone⟩ := fromClosing _ h1 (by simpa using hmu) w hpc
      refine ⟨n + 1, s', by omega, ?_, hdone⟩
      simp [List.replicate_succ, run, hst, hrun]
  · obtain ⟨n, s', hn, hrun, hdone⟩ := fromClosing s h hmu w hw
    exact ⟨n, s', by omega, hrun, hdone⟩

theorem run_append (s : Sys) (as bs : List Action) :
    run s (as ++ bs) = (run s as).bind fun s' => run s' bs := by
  induction as generalizing s with
  | nil => simp [run]
  | cons a t ih =>
    simp only [List.cons_append, run]
    cases step s a <;> simp [ih]

theorem loop_finishes {s : Sys} (h : IndInv s) (k : Nat)
    (hk : (∃ ev, s.loopPc k = some (.onerror ev)) ∨ (∃ w, s.loopPc k = some (.closing w)) ∨
          (∃ w, s.loopPc k = some (.atSignal w))) :
    ∃ as s', as.length ≤ 4 ∧ (∀ a ∈ as, a = .loopStep k ∨ ∃ p, s.mu = some p ∧ a = p.act) ∧
      run s as = some s' ∧ s'.loopPc k = some .done := by
  have hs := h.sysInv
  cases hmu : s.mu with
  | none =>
    have hk' : (∃ ev, s.loopPc k = some (.onerror ev)) ∨ (∃ w, s.loopPc k = some (.closing w)) :=
      hk.imp_right fun hk => hk.resolve_right fun ⟨w, hw⟩ => by have := hs.loopAt k w hw; rw [hmu] at this; cases this
    obtain ⟨n, s', hn, hr, hd⟩ := loop_finishes_free h hmu k hk'
    exact ⟨_, s', by simp; omega, fun a ha => .inl (List.mem_replicate.mp ha).2, hr, hd⟩
  | some p =>
    obtain ⟨w, hst⟩ := holder_step hs hmu
    have hown : ∀ n, ∀ a ∈ p.act :: List.replicate n (Action.loopStep k),
        a = .loopStep k ∨ ∃ q, some p = some q ∧ a = q.act :=
      fun n a ha => (List.mem_cons.mp ha).elim (fun e => .inr ⟨p, rfl, e⟩) fun ha => .inl (List.mem_replicate.mp ha).2
    by_cases hp : p = .loop k
    · obtain ⟨w', hw'⟩ := hs.muLoop k (hp ▸ hmu)
      exact ⟨[p.act], p.finish (doClose s w), by simp, hown 0, by simp [run, hst], by
        rw [finish_loopPc h.fresh p w hw' (by simp), if_pos hp]⟩
    · have keep : ∀ pc, s.loopPc k = some pc → pc ≠ .reading → (p.finish (doClose s w)).loopPc k = some pc :=
        fun pc hpc hne => by rw [finish_loopPc h.fresh p w hpc hne, if_neg hp]
      have hk1 : (∃ ev, (p.finish (doClose s w)).loopPc k = some (.onerror ev)) ∨
          (∃ w', (p.finish (doClose s w)).loopPc k = some (.closing w')) := by
        rcases hk with ⟨ev, hev⟩ | ⟨w', hw'⟩ | ⟨w', hw'⟩
        · exact .inl ⟨ev, keep _ hev (by simp)⟩
        · exact .inr ⟨w', keep _ hw' (by simp)⟩
        · have := hs.loopAt k w' hw'; rw [hmu] at this; exact absurd (Option.some.inj this) hp
      obtain ⟨n, s', hn, hr, hd⟩ := loop_finishes_free (inv_step h (step_sound hst)) (finish_mu p s w) k hk1
      exact ⟨p.act :: List.replicate n (.loopStep k), s', by simp; omega, hown n, by simp [run, hst, hr], hd⟩

theorem doClose_mon_empty (s : Sys) (hf : s.fresh = true) (w : Closer) (hm : s.mon = some []) :
    (doClose s w).mon = some [w.cause] ∧ (doClose s w).monSent = s.monSent + 1 ∧ (doClose s w).monDropped = s.monDropped := by
  unfold doClose
  simp only [Sys.setSig, hf, if_true, notifyMon, hm, monitorChanCap]
  simp

theorem doClose_mon_full (s : Sys) (hf : s.fresh = true) (w : Closer) (c : Cause) (hm : s.mon = some [c]) :
    (doClose s w).mon = some [c] ∧ (doClose s w).monSent = s.monSent ∧ (doClose s w).monDropped = s.monDropped + 1 := by
  unfold doClose
  simp only [Sys.setSig, hf, if_true, notifyMon, hm, monitorChanCap]
  simp

/-- The only steps that take the transport from open to closed are the second halves of `close()`. -/
theorem closing_step {s s' : Sys} {a : Action} (hs : Step s a s') (ho : s.isOpen = true) (hc : s'.isOpen = false) :
    ∃ p w, s' = Pid.finish p (doClose s w) := by
  cases hs with
  | @closeCall i => exact ⟨.call i, _, rfl⟩
  | @closeLoop k => exact ⟨.loop k, _, rfl⟩
  | _ => simp [ho] at hc

end FV.Adapter
