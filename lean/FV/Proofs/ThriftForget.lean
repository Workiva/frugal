/- The model of the emitted Read (FV.Thrift.decV) does not depend on struct/field names nor on the
key/value types announced by an EMPTY map: what the byte protocols do not carry is never looked at.

Each proof runs the reader on the two streams in step. Where the model matches on the result of an inner reader
followed by a closing call (`.ok (.le :: r')`, `.ok (v, .fe :: r')`, …), the pattern `(_ | ⟨⟨⟩, _⟩) | _ | _`
takes that result apart: a success with nothing left; a success with a rest, whose first call `⟨⟩` splits over
every constructor of `Event` (only the closing call takes the first arm, and `forget` leaves it alone); an
error; a panic. In each case both sides compute. -/
import FV.Proofs.Thrift
namespace FV.Thrift

/-- What the emitted `Read` never looks at: struct and field names, and the key/value types of an
empty map (`Skip` of an empty map does not use them either). -/
def forget : Event → Event
  | .sb _ => .sb ""
  | .fb _ tt id => .fb "" tt id
  | .mb kt vt n => .mb (if n = 0 then 0 else kt) (if n = 0 then 0 else vt) n
  | e => e

/-- Map `forget` over the unread rest of a reader's result: the result of reading the forgotten stream. -/
def mapR {α : Type} : Res (α × List Event) → Res (α × List Event)
  | .ok (a, r) => .ok (a, r.map forget)
  | .err e => .err e
  | .panic p => .panic p

/-- Map `forget` over the unread rest that `Skip` returns. -/
def mapS : Res (List Event) → Res (List Event)
  | .ok r => .ok (r.map forget)
  | .err e => .err e
  | .panic p => .panic p

theorem skipN_forget (sk : Nat → List Event → Res (List Event))
    (hsk : ∀ tt es, sk tt (es.map forget) = mapS (sk tt es)) :
    ∀ (k tt : Nat) (es : List Event), skipN sk k tt (es.map forget) = mapS (skipN sk k tt es) := by
  intro k
  induction k with
  | zero => intro tt es; rfl
  | succ k ih =>
    intro tt es
    simp only [skipN, hsk]
    cases sk tt es with
    | ok l => simp only [mapS, ih]
    | err e | panic p => rfl

theorem skipKV_forget (sk : Nat → List Event → Res (List Event))
    (hsk : ∀ tt es, sk tt (es.map forget) = mapS (sk tt es)) (kt vt : Nat) :
    ∀ (k : Nat) (es : List Event), skipKV sk kt vt k (es.map forget) = mapS (skipKV sk kt vt k es) := by
  intro k
  induction k with
  | zero => intro es; rfl
  | succ k ih =>
    intro es
    simp only [skipKV, hsk]
    cases sk kt es with
    | ok l =>
      simp only [mapS, hsk]
      cases sk vt l with
      | ok l2 => simp only [mapS, ih]
      | err e | panic p => rfl
    | err e | panic p => rfl

theorem skipFields_forget (sk : Nat → List Event → Res (List Event))
    (hsk : ∀ tt es, sk tt (es.map forget) = mapS (sk tt es)) :
    ∀ (f : Nat) (es : List Event), skipFields sk f (es.map forget) = mapS (skipFields sk f es) := by
  intro f
  induction f with
  | zero => intro es; rfl
  | succ f ih =>
    intro es
    rcases es with _ | ⟨e, r⟩
    · rfl
    cases e
    case fs => rcases r with _ | ⟨⟨⟩, _⟩ <;> rfl
    case fb nm ft id =>
      simp only [List.map_cons, forget, skipFields, hsk]
      rcases sk ft r with (_ | ⟨⟨⟩, _⟩) | _ | _ <;> first | rfl | exact ih _
    all_goals rfl

theorem Event.wire_forget (e : Event) : (forget e).wire = e.wire := by cases e <;> rfl

/-- `forget` keeps the wire type of the head call and what `Skip` reads of it, so both sides take the same
branch of `skip_cons` and go on with the mapped rest. -/
theorem skip_forget : ∀ (n tt : Nat) (es : List Event), skip n tt (es.map forget) = mapS (skip n tt es) := by
  intro n
  induction n with
  | zero => intro tt es; rfl
  | succ n ih =>
    intro tt es
    rcases es with _ | ⟨e, r⟩
    · rw [List.map_nil, skip_nil]; rfl
    rw [List.map_cons, skip_cons, skip_cons, Event.wire_forget]
    split
    · rename_i h; clear h
      cases e
      case sb nm => simp only [forget, List.length_map]; exact skipFields_forget (skip n) ih _ r
      case lb et k | tb et k =>
        simp only [forget, skipN_forget (skip n) ih]
        rcases skipN (skip n) k et r with (_ | ⟨⟨⟩, _⟩) | _ | _ <;> rfl
      case mb kt vt k =>
        -- an empty map: its key and value types are forgotten, and `skipKV` does not look at them
        have hkv : skipKV (skip n) (if k = 0 then 0 else kt) (if k = 0 then 0 else vt) k (r.map forget)
            = mapS (skipKV (skip n) kt vt k r) := by
          cases k with
          | zero => rfl
          | succ k' => simp only [Nat.succ_ne_zero, if_false]; exact skipKV_forget (skip n) ih kt vt _ r
        simp only [forget, hkv]
        rcases skipKV (skip n) kt vt k r with (_ | ⟨⟨⟩, _⟩) | _ | _ <;> rfl
      all_goals rfl
    · rfl

theorem decN_forget (dec : List Event → Res (Val × List Event))
    (hd : ∀ es, dec (es.map forget) = mapR (dec es)) :
    ∀ (k : Nat) (es : List Event) (acc : List Val), decN dec k (es.map forget) acc = mapR (decN dec k es acc) := by
  intro k
  induction k with
  | zero => intro es acc; rfl
  | succ k ih =>
    intro es acc
    simp only [decN, hd]
    cases dec es with
    | ok p => obtain ⟨v, l⟩ := p; simp only [mapR, ih]
    | err e | panic p => rfl

theorem decKV_forget (deck decv : List Event → Res (Val × List Event))
    (hk : ∀ es, deck (es.map forget) = mapR (deck es)) (hv : ∀ es, decv (es.map forget) = mapR (decv es)) :
    ∀ (k : Nat) (es : List Event) (acc : List (Val × Val)),
      decKV deck decv k (es.map forget) acc = mapR (decKV deck decv k es acc) := by
  intro k
  induction k with
  | zero => intro es acc; rfl
  | succ k ih =>
    intro es acc
    simp only [decKV, hk]
    cases deck es with
    | ok p =>
      obtain ⟨v, l⟩ := p
      simp only [mapR, hv]
      cases decv l with
      | ok p2 => obtain ⟨v2, l2⟩ := p2; simp only [mapR, ih]
      | err e | panic p => rfl
    | err e | panic p => rfl

theorem decFields_forget (dec : Ty → List Event → Res (Val × List Event)) (skp : Nat → List Event → Res (List Event))
    (sd : StructDef)
    (hd : ∀ t es, dec t (es.map forget) = mapR (dec t es))
    (hs : ∀ tt es, skp tt (es.map forget) = mapS (skp tt es)) :
    ∀ (f : Nat) (es : List Event) (acc : List (Int × Val)),
      decFields dec skp sd f (es.map forget) acc = mapR (decFields dec skp sd f es acc) := by
  intro f
  induction f with
  | zero => intro es acc; rfl
  | succ f ih =>
    intro es acc
    rcases es with _ | ⟨e, r⟩
    · rfl
    cases e
    case fb nm ft id =>
      simp only [List.map_cons, forget, decFields]
      cases sd.fields.find? (·.id = id) with
      | some fd =>
        simp only [hd]
        rcases dec fd.ty r with ⟨_, _ | ⟨⟨⟩, _⟩⟩ | _ | _ <;> first | rfl | exact ih _ _
      | none =>
        simp only [hs]
        rcases skp ft r with (_ | ⟨⟨⟩, _⟩) | _ | _ <;> first | rfl | exact ih _ _
    all_goals rfl

theorem mapR_ite {α : Type} (c : Prop) [Decidable c] (a b : Res (α × List Event)) :
    mapR (if c then a else b) = if c then mapR a else mapR b := by
  split <;> rfl

/-- The emitted `Read` does not depend on what `forget` erases. -/
theorem decV_forget (d : Defs) : ∀ (n : Nat) (t : Ty) (es : List Event),
    decV d n t (es.map forget) = mapR (decV d n t es) := by
  intro n
  induction n with
  | zero => intro t es; rfl
  | succ n ih =>
    intro t es
    unfold decV
    -- with the resolved type and the head call both in constructor form each side computes
    generalize resolve d t = rt
    rcases es with _ | ⟨e, r⟩
    · cases rt <;> rfl
    cases rt <;> cases e
    -- a composite type with its begin call goes through the loop lemmas; on every other pair both sides compute
    case list.lb a et k | set.tb a et k =>
      simp only [List.map_cons, forget, decN_forget (decV d n a) (ih a)]
      rcases decN (decV d n a) k r [] with ⟨_, _ | ⟨⟨⟩, _⟩⟩ | _ | _ <;> rfl
    case map.mb kt vt kt' vt' k =>
      simp only [List.map_cons, forget, decKV_forget (decV d n kt) (decV d n vt) (ih kt) (ih vt)]
      rcases decKV (decV d n kt) (decV d n vt) k r [] with ⟨_, _ | ⟨⟨⟩, _⟩⟩ | _ | _ <;> rfl
    case struct.sb nm nm' =>
      simp only [List.map_cons, forget, List.length_map]
      cases lookupStruct d nm with
      | none => rfl
      | some sd =>
        simp only [decFields_forget (decV d n) (skip (n + 1)) sd ih (skip_forget (n + 1))]
        rcases decFields (decV d n) (skip (n + 1)) sd r.length r [] with ⟨fs, _ | ⟨⟨⟩, _⟩⟩ | _ | _ <;> try rfl
        simp only [mapR, List.map_cons, forget]
        split
        · rfl
        · split <;> rfl
    all_goals rfl
end FV.Thrift
