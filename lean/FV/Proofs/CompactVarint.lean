/- Zigzag and varint of the compact protocol (FV.Model.CompactProtocol) are inverted by their readers: zigzag
by case on the sign, the varint for EVERY number by induction on `n / 128`, one step per byte. -/
import FV.Model.CompactProtocol
namespace FV.Thrift

theorem zigzag_unzigzag (z : Int) : unzigzag (zigzag z) = z := by
  unfold zigzag
  split
  · rw [unzigzag, if_pos (by omega)]; omega
  · rw [unzigzag, if_neg (by omega)]; omega

theorem zigzag_lt32 (z : Int) (h : -2147483648 ≤ z ∧ z < 2147483648) : zigzag z < 4294967296 := by
  simp only [zigzag]; split <;> omega

theorem zigzag_lt64 (z : Int) (h : -9223372036854775808 ≤ z ∧ z < 9223372036854775808) :
    zigzag z < 18446744073709551616 := by
  simp only [zigzag]; split <;> omega

theorem uvarintDec_uvarint (n : Nat) : ∀ (rest : Bytes) (s a : Nat),
    uvarintDec (uvarint n ++ rest) s a = .ok (a + n * 2 ^ s, rest) := by
  induction n using Nat.strongRecOn with
  | _ n ih =>
    intro rest s a
    have h128 := Nat.mod_lt n (show 0 < 128 by decide)
    rw [uvarint]
    split
    · rename_i hlt
      simp only [List.cons_append, List.nil_append, uvarintDec, UInt8.toNat_ofNat_of_lt' (show n < 256 by omega)]
      rw [if_pos hlt, Nat.mod_eq_of_lt hlt]
    · simp only [List.cons_append, uvarintDec, UInt8.toNat_ofNat_of_lt' (show n % 128 + 128 < 256 by omega)]
      -- one more byte: the low seven bits now, the rest of `n` at the next shift
      rw [if_neg (by omega), ih (n / 128) (by omega), Nat.add_mod_right, Nat.mod_mod, Nat.pow_add, Nat.add_assoc,
        Nat.mul_comm (2 ^ s), ← Nat.mul_assoc, ← Nat.add_mul, Nat.mod_add_div']

end FV.Thrift
