/- Lemmas about the byte-level model of the compact protocol (FV.Model.CompactProtocol): every read call
returns what the mirrored write call was given; the writer's and the reader's field-id state stay in step. -/
import FV.Model.CompactProtocol
import FV.Proofs.BinaryProtocol
import FV.Proofs.CompactVarint
namespace FV.Thrift

theorem readVarint64_uvarint (n : Nat) (rest : Bytes) (h : n < 18446744073709551616) :
    readVarint64 (uvarint n ++ rest) = .ok (n, rest) := by
  simp only [readVarint64, uvarintDec_uvarint, Nat.pow_zero, Nat.mul_one, Nat.zero_add]
  rw [Nat.mod_eq_of_lt h]

theorem readVarint32_uvarint (n : Nat) (rest : Bytes) (h : n < 4294967296) :
    readVarint32 (uvarint n ++ rest) = .ok (n, rest) := by
  simp only [readVarint32, readVarint64_uvarint n rest (by omega)]
  rw [Nat.mod_eq_of_lt h]

theorem cmpReadI32_zigzag (z : Int) (rest : Bytes) (h : -2147483648 ≤ z ∧ z < 2147483648) :
    cmpReadI32 (uvarint (zigzag z) ++ rest) = .ok (z, rest) := by
  simp only [cmpReadI32, readVarint32_uvarint _ rest (zigzag_lt32 z h), zigzag_unzigzag]

theorem cmpReadSize_uvarint (n : Nat) (rest : Bytes) (h : n ≤ maxMessageSize) :
    cmpReadSize (uvarint (n % 4294967296) ++ rest) = .ok (n, rest) := by
  simp only [size_mod h, cmpReadSize, readVarint32_uvarint n rest (Nat.lt_of_le_of_lt h (by decide)), checkSize_toI32 h]

/-- The range of Go's int16: what a field id, and the protocol's previous field id, can be. -/
def InR16 (z : Int) : Prop := -32768 ≤ z ∧ z < 32768

theorem wrap16_id (z : Int) (h : InR16 z) : wrap16 z = z := toS16_toU16 z h

theorem nibbles {hi lo : Nat} (hh : hi < 16) (hl : lo < 16) :
    (UInt8.ofNat (hi * 16 + lo)).toNat % 16 = lo ∧ (UInt8.ofNat (hi * 16 + lo)).toNat / 16 = hi := by
  rw [UInt8.toNat_ofNat_of_lt' (show hi * 16 + lo < 256 by omega)]
  exact ⟨Nat.mul_add_mod_of_lt hl,
    by rw [Nat.add_comm, Nat.add_mul_div_right _ _ (by decide), Nat.div_eq_of_lt hl, Nat.zero_add]⟩

/-- Decoding a field header: the short form (delta in the high nibble) and the long form
(zigzag varint id) both give back the type of the nibble and the id. -/
theorem cmpRead_fieldHdr (r : CR) (nib tt : Nat) (id : Int) (rest : Bytes)
    (hl : InR16 r.last) (hid : InR16 id) (hn0 : nib ≠ 0) (hn : nib < 16) (htt : ttypeOf nib = some tt) :
    cmpRead r .fieldBegin (cmpFieldHdr r.last nib id ++ rest) =
      .ok (.fb "" tt id, rest, ⟨r.stack, id, if nib = 1 ∨ nib = 2 then some (nib = 1) else r.bool⟩) := by
  simp only [cmpFieldHdr]
  split
  · rename_i hs
    obtain ⟨h1, h2⟩ := nibbles (hi := (id - r.last).toNat) (lo := nib) (by omega) hn
    have hd : wrap16 r.last + ((id - r.last).toNat : Nat) = id := by
      rw [wrap16_id r.last hl, Int.toNat_of_nonneg (by omega)]; omega
    simp only [List.cons_append, List.nil_append, cmpRead, h1, h2, if_neg hn0,
      if_neg (show ¬ (id - r.last).toNat = 0 by omega), htt, hd, wrap16_id id hid]
  · obtain ⟨h1, h2⟩ := nibbles (hi := 0) (lo := nib) (by decide) hn
    rw [Nat.zero_mul, Nat.zero_add] at h1 h2
    simp only [List.cons_append, cmpRead, h1, h2, if_neg hn0, if_true, htt,
      cmpReadI32_zigzag id rest ⟨by have := hid.1; omega, by have := hid.2; omega⟩, wrap16_id id hid]

theorem ctype_lt (tt : Nat) : ctype tt < 16 := by
  unfold ctype; split <;> decide

theorem uvarint_zero : uvarint 0 = [0] := by
  rw [uvarint]; simp

theorem cmpReadColl_hdr (mk : Nat → Nat → Event) (r : CR) (tt n : Nat) (rest : Bytes)
    (ht : cmpTT tt) (hn : n ≤ maxMessageSize) :
    cmpReadColl mk r (cmpCollHdr tt n ++ rest) = .ok (mk tt n, rest, r) := by
  simp only [cmpTT] at ht
  simp only [cmpCollHdr]
  split
  · obtain ⟨h1, h2⟩ := nibbles (hi := n) (lo := ctype tt) (by omega) (ctype_lt tt)
    simp only [List.cons_append, List.nil_append, cmpReadColl, h1, h2, if_neg (show ¬ n = 15 by omega), ht]
  · obtain ⟨h1, h2⟩ := nibbles (hi := 15) (lo := ctype tt) (by decide) (ctype_lt tt)
    simp only [List.cons_append, cmpReadColl, h1, h2, if_true, cmpReadSize_uvarint n rest hn, ht]

theorem cmpReadStr_enc (flag : Bool) (r : CR) (b rest : Bytes) (h : b.length ≤ maxMessageSize) :
    cmpReadStr flag r (uvarint (b.length % 4294967296) ++ b ++ rest) = .ok (.str flag b, rest, r) := by
  simp only [cmpReadStr, List.append_assoc, cmpReadSize_uvarint b.length _ h, readN_append b.length b rest rfl]

/-- The calls that neither read nor change the protocol state: all but the struct brackets (the stack of
previous field ids), the field header (the previous id) and the bool (folded into a pending header). -/
def Event.stateless : Event → Bool
  | .sb _ | .se | .fb _ _ _ | .bool _ => false
  | _ => true

theorem cmp_stateless (e : Event) (hs : e.stateless = true) (hfit : CmpFits e) (w : CW) (r : CR) (rest : Bytes) :
    ∃ bs, cmpWrite w e = .ok (bs, w) ∧ cmpRead r (callOf e) (bs ++ rest) = .ok (cmpErase e, rest, r) := by
  cases e with
  | sb nm | se | fb nm tt id | bool b => cases hs
  | fe | me | le | te => exact ⟨_, rfl, rfl⟩
  | fs => exact ⟨_, rfl, by simp [callOf, cmpRead, cmpErase]⟩
  | mb kt vt n =>
    obtain ⟨hk, hv, hn⟩ := hfit
    simp only [cmpTT] at hk hv
    simp only [cmpWrite]
    split
    · rename_i h0; subst h0
      have := cmpReadSize_uvarint 0 rest (Nat.zero_le _)
      simp only [Nat.zero_mod, uvarint_zero] at this
      exact ⟨_, rfl, by simp only [callOf, cmpRead, this, if_pos, cmpErase]⟩
    · rename_i h0
      obtain ⟨e2, e1⟩ := nibbles (ctype_lt kt) (ctype_lt vt)
      refine ⟨_, rfl, ?_⟩
      simp only [callOf, cmpRead, List.append_assoc, cmpReadSize_uvarint n _ hn, if_neg h0, List.cons_append,
        List.nil_append, e1, e2, hk, hv, Option.getD_some]
      cases n with
      | zero => exact absurd rfl h0
      | succ k => rfl
  | lb tt n | tb tt n => exact ⟨_, rfl, cmpReadColl_hdr _ r tt n rest hfit.1 hfit.2⟩
  | byte n =>
    refine ⟨_, rfl, ?_⟩
    simp only [callOf, cmpRead, List.cons_append, List.nil_append, cmpErase]
    rw [UInt8.toNat_ofNat_of_lt' (toU8_lt n), toS8_toU8 n hfit]
  | i16 n =>
    refine ⟨_, rfl, ?_⟩
    simp only [callOf, cmpRead, cmpReadI32_zigzag n rest ⟨by have := hfit.1; omega, by have := hfit.2; omega⟩,
      wrap16_id n hfit, cmpErase]
  | i32 n => exact ⟨_, rfl, by simp only [callOf, cmpRead, cmpReadI32_zigzag n rest hfit, cmpErase]⟩
  | i64 n =>
    exact ⟨_, rfl,
      by simp only [callOf, cmpRead, readVarint64_uvarint _ rest (zigzag_lt64 n hfit), zigzag_unzigzag, cmpErase]⟩
  | dbl bits =>
    refine ⟨_, rfl, ?_⟩
    have p8 : (256 : Nat) ^ 8 = 18446744073709551616 := by decide
    simp only [callOf, cmpRead, readN_append 8 _ rest (leBytes_length 8 bits), leNat_leBytes, cmpErase]
    rw [p8, Nat.mod_eq_of_lt hfit]
  | str flag b =>
    refine ⟨_, rfl, ?_⟩
    cases flag <;> simp only [callOf, cmpRead, cmpErase] <;> exact cmpReadStr_enc _ r b rest hfit

/-- Writer and reader states agree between calls (no bool field header pending). -/
structure CRel (w : CW) (r : CR) : Prop where
  stack : r.stack = w.stack
  last : r.last = w.last
  pend : w.pend = none
  bool : r.bool = none
  lastR : InR16 w.last
  stackR : ∀ x ∈ w.stack, InR16 x

/-- One write call (other than the header of a bool field) and the read call that mirrors it: the four calls
that touch the protocol state keep the two states in step. -/
theorem cmp_step (w w' : CW) (r : CR) (e : Event) (bs rest : Bytes) (hrel : CRel w r)
    (hfit : CmpFits e) (hnb : ∀ nm id, e ≠ .fb nm 2 id) (hw : cmpWrite w e = .ok (bs, w')) :
    ∃ r', cmpRead r (callOf e) (bs ++ rest) = .ok (cmpErase e, rest, r') ∧ CRel w' r' := by
  by_cases hs : e.stateless = true
  · obtain ⟨bs', hw', hr⟩ := cmp_stateless e hs hfit w r rest
    cases hw.symm.trans hw'
    exact ⟨r, hr, hrel⟩
  cases e
  case sb nm =>
    simp only [cmpWrite] at hw; cases hw
    refine ⟨_, rfl, ⟨?_, rfl, hrel.pend, hrel.bool, ?_, List.forall_mem_cons.mpr ⟨hrel.lastR, hrel.stackR⟩⟩⟩
    · simp [hrel.stack, hrel.last]
    · simp [InR16]
  case se =>
    simp only [cmpWrite] at hw
    split at hw
    · cases hw
    · rename_i l s hs
      cases hw
      simp only [callOf, cmpRead, hrel.stack, hs, List.nil_append, cmpErase]
      obtain ⟨hl, hst⟩ := List.forall_mem_cons.mp (hs ▸ hrel.stackR)
      exact ⟨_, rfl, ⟨rfl, rfl, hrel.pend, hrel.bool, hl, hst⟩⟩
  case fb nm tt id =>
    obtain ⟨h1, h2, h3, h4⟩ := hfit
    have hne : tt ≠ 2 := fun h => hnb nm id (by rw [h])
    simp only [cmpWrite, if_neg hne] at hw; cases hw
    have hrd := cmpRead_fieldHdr r (ctype tt) tt id rest (by rw [hrel.last]; exact hrel.lastR) ⟨h3, h4⟩ h2 (ctype_lt tt) h1
    have hnbool : ¬ (ctype tt = 1 ∨ ctype tt = 2) := by
      intro h
      simp only [cmpTT] at h1
      rcases h with h | h <;> (rw [h] at h1; simp [ttypeOf] at h1; exact hne h1.symm)
    rw [if_neg hnbool, hrel.last] at hrd
    exact ⟨_, hrd, ⟨hrel.stack, rfl, hrel.pend, hrel.bool, ⟨h3, h4⟩, hrel.stackR⟩⟩
  case bool b =>
    simp only [cmpWrite, hrel.pend] at hw; cases hw
    refine ⟨r, ?_, hrel⟩
    cases b <;> simp [callOf, cmpRead, hrel.bool, cmpErase]
  all_goals exact absurd rfl hs


/-- The header of a bool field and its value: nothing is written at `WriteFieldBegin`, the header
carrying the value is written at `WriteBool`; `ReadFieldBegin` decodes it and keeps the value for
the `ReadBool` that follows. -/
theorem cmp_step_boolfield (w : CW) (r : CR) (id : Int) (b : Bool) (rest : Bytes) (hrel : CRel w r)
    (hid : InR16 id) :
    ∃ r1 r2, cmpRead r .fieldBegin (cmpFieldHdr w.last (if b then 1 else 2) id ++ rest) = .ok (.fb "" 2 id, rest, r1) ∧
      cmpRead r1 .bool rest = .ok (.bool b, rest, r2) ∧ CRel { w with last := id, pend := none } r2 := by
  have hrd := fun nib h0 h16 htt =>
    hrel.last ▸ cmpRead_fieldHdr r nib 2 id rest (hrel.last ▸ hrel.lastR) hid h0 h16 htt
  -- nibble 1 carries `true`, nibble 2 `false`; both are BOOL
  cases b <;>
    exact ⟨_, ⟨r.stack, id, none⟩, hrd _ (by decide) (by decide) rfl, rfl, ⟨hrel.stack, rfl, rfl, rfl, hid, hrel.stackR⟩⟩

theorem cmpOKb_cons_other (e : Event) (es : List Event) (h : ∀ nm id, e ≠ .fb nm 2 id) :
    cmpOKb (e :: es) = (decide (CmpFits e) && cmpOKb es) := by
  rw [cmpOKb]
  · intro nm id b es' he _; exact h nm id he
  · intro nm id he; exact h nm id he

theorem cmpOKb_cons_fit (e : Event) (es : List Event) (hc : CmpFits e) (h : ∀ nm id, e ≠ .fb nm 2 id) :
    cmpOKb (e :: es) = cmpOKb es := by
  rw [cmpOKb_cons_other e es h, decide_eq_true hc, Bool.true_and]

theorem cmpBalanced_cons_other (k : Nat) (e : Event) (es : List Event) (h2 : ∀ nm, e ≠ .sb nm) (h3 : e ≠ .se) :
    cmpBalanced k (e :: es) = cmpBalanced k es := by
  rw [cmpBalanced]
  · intro nm he; exact h2 nm he
  · intro _ he; exact h3 he
  · intro _ _ he; exact h3 he

theorem cmpEnc_cons (w : CW) (e : Event) (es : List Event) (bs : Bytes) (w'' : CW)
    (h : cmpEnc w (e :: es) = .ok (bs, w'')) :
    ∃ b w' bs', cmpWrite w e = .ok (b, w') ∧ cmpEnc w' es = .ok (bs', w'') ∧ bs = b ++ bs' := by
  simp only [cmpEnc] at h
  split at h
  · rename_i b w' hb
    split at h
    · rename_i bs' w2 hbs
      cases h
      exact ⟨b, w', bs', hb, hbs, rfl⟩
    · cases h
    · cases h
  · cases h
  · cases h

/-- Reading with the calls that mirror the writer's calls returns the written events (minus what the
protocol does not carry) and leaves exactly what followed the encoding; the protocol states agree
again afterwards. -/
theorem cmpReads_cmpEnc : ∀ (es : List Event) (w w' : CW) (r : CR) (bs rest : Bytes),
    CRel w r → CmpOK es → cmpEnc w es = .ok (bs, w') →
    ∃ r', cmpReads r (es.map callOf) (bs ++ rest) = .ok (es.map cmpErase, rest, r') ∧ CRel w' r' := by
  intro es
  induction es using cmpOKb.induct with
  | case1 =>  -- no call left
    intro w w' r bs rest hrel _ henc
    simp only [cmpEnc] at henc; cases henc
    exact ⟨r, rfl, hrel⟩
  | case2 nm id b es ih =>  -- a bool field: header and value together
    intro w w' r bs rest hrel hok henc
    simp only [CmpOK, cmpOKb, Bool.and_eq_true, decide_eq_true_eq] at hok
    obtain ⟨b1, w1, bs1, hw1, henc1, rfl⟩ := cmpEnc_cons _ _ _ _ _ henc
    obtain ⟨b2, w2, bs2, hw2, henc2, rfl⟩ := cmpEnc_cons _ _ _ _ _ henc1
    simp only [cmpWrite, if_pos] at hw1; cases hw1
    simp only [cmpWrite] at hw2; cases hw2
    obtain ⟨r1, r2, hr1, hr2, hrel2⟩ := cmp_step_boolfield w r id b (bs2 ++ rest) hrel hok.1
    obtain ⟨r', hr', hrel'⟩ := ih _ w' r2 bs2 rest hrel2 hok.2 henc2
    refine ⟨r', ?_, hrel'⟩
    simp only [List.map_cons, callOf, cmpReads, List.nil_append, List.append_assoc, hr1, hr2, hr', cmpErase]
  | case3 nm id tail hnot =>  -- a bool field header without its value: excluded by `CmpOK`
    intro w w' r bs rest _ hok _
    exfalso
    simp only [CmpOK] at hok
    cases tail with
    | nil => simp [cmpOKb] at hok
    | cons e t =>
      cases e <;> simp [cmpOKb] at hok
      exact hnot _ _ rfl
  | case4 e es h1 h2 ih =>  -- any other call: `cmp_step`
    intro w w' r bs rest hrel hok henc
    have hok' : CmpFits e ∧ CmpOK es := by simpa [CmpOK, cmpOKb_cons_other e es h2] using hok
    obtain ⟨b1, w1, bs1, hw1, henc1, rfl⟩ := cmpEnc_cons _ _ _ _ _ henc
    obtain ⟨r1, hr1, hrel1⟩ := cmp_step w w1 r e b1 (bs1 ++ rest) hrel hok'.1 (fun nm id he => h2 nm id he) hw1
    obtain ⟨r', hr', hrel'⟩ := ih w1 w' r1 bs1 rest hrel1 hok'.2 henc1
    refine ⟨r', ?_, hrel'⟩
    simp only [List.map_cons, cmpReads, List.append_assoc, hr1, hr']

theorem CRel_init : CRel CW.init CR.init :=
  ⟨rfl, rfl, rfl, rfl, by simp [InR16, CW.init], by intro x hx; simp [CW.init] at hx⟩

end FV.Thrift
