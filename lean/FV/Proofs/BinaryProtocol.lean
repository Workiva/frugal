/- The binary protocol (FV.Model.BinaryProtocol) gives back what it was given: big-endian bytes denote the
number, Go's signed/unsigned conversions are one two's-complement fact for all four widths, and every read
call applied to the bytes of the mirrored write call returns that call's arguments (`binRead_binWrite`). -/
import FV.Model.BinaryProtocol
namespace FV.Thrift

theorem leBytes_length : ∀ (k n : Nat), (leBytes k n).length = k
  | 0, _ => rfl
  | k + 1, n => by simp [leBytes, leBytes_length k]

theorem leNat_leBytes : ∀ (k n : Nat), leNat (leBytes k n) = n % 256 ^ k
  | 0, n => by simp [leBytes, leNat, Nat.mod_one]
  | k + 1, n => by
    have h8 : (UInt8.ofNat (n % 256)).toNat = n % 256 := by
      rw [UInt8.toNat_ofNat']; exact Nat.mod_eq_of_lt (by omega)
    simp only [leBytes, leNat, leNat_leBytes k, h8]
    rw [Nat.pow_succ, Nat.mul_comm (256 ^ k) 256, Nat.mod_mul]

theorem beBytes_length (k n : Nat) : (beBytes k n).length = k := by
  simp [beBytes, leBytes_length]

theorem beNat_beBytes (k n : Nat) : beNat (beBytes k n) = n % 256 ^ k := by
  simp [beNat, beBytes, leNat_leBytes]

theorem readN_append (k : Nat) (a rest : Bytes) (h : a.length = k) : readN k (a ++ rest) = .ok (a, rest) := by
  subst h
  simp [readN]

theorem binReadBE_beBytes (k n : Nat) (rest : Bytes) :
    binReadBE k (beBytes k n ++ rest) = .ok (n % 256 ^ k, rest) := by
  simp only [binReadBE, readN_append k _ rest (beBytes_length k n), beNat_beBytes]

/-- Two's complement on `m = 2k` values: a signed number of the range, converted to unsigned (`u`) and back.
`hm` and `hu` are equations so that the four widths are instances by `rfl` with literal `m`, `k`; the second
`% m` in `hu` is the one the model's signed reading (`toS8` …) applies to its argument. -/
theorem signed_unsigned (m k : Nat) (hm : m = 2 * k) (z : Int) (h : -(k : Int) ≤ z ∧ z < k) (u : Nat)
    (hu : u = (z % (m : Int)).toNat % m) : (if u < k then (u : Int) else (u : Int) - (m : Int)) = z := by
  subst hm hu
  by_cases hz : 0 ≤ z
  · rw [Int.emod_eq_of_lt hz (by omega), Nat.mod_eq_of_lt (by omega), if_pos (by omega)]; omega
  · rw [← Int.add_emod_right, Int.emod_eq_of_lt (by omega) (by omega), Nat.mod_eq_of_lt (by omega),
      if_neg (by omega)]; omega

/-- Go's fixed-width conversions round-trip on the range of the signed type. -/
theorem toS8_toU8 (z : Int) (h : -128 ≤ z ∧ z < 128) : toS8 (toU8 z) = z :=
  signed_unsigned 256 128 rfl z h _ rfl
theorem toS16_toU16 (z : Int) (h : -32768 ≤ z ∧ z < 32768) : toS16 (toU16 z) = z :=
  signed_unsigned 65536 32768 rfl z h _ rfl
theorem toI32_toU32 (z : Int) (h : -2147483648 ≤ z ∧ z < 2147483648) : toI32 (toU32 z) = z :=
  signed_unsigned 4294967296 2147483648 rfl z h _ rfl
theorem toS64_toU64 (z : Int) (h : -9223372036854775808 ≤ z ∧ z < 9223372036854775808) :
    toS64 (toU64 z) = z :=
  signed_unsigned 18446744073709551616 9223372036854775808 rfl z h _ rfl

theorem toU8_lt (z : Int) : toU8 z < 256 := by simp only [toU8]; omega

/-- The signed reading looks at the low bits only (what `binReadBE` returns is already reduced). -/
theorem toS16_mod (n : Nat) : toS16 (n % 65536) = toS16 n := by simp only [toS16, Nat.mod_mod]
theorem toI32_mod (n : Nat) : toI32 (n % 4294967296) = toI32 n := by simp only [toI32, Nat.mod_mod]
theorem toS64_mod (n : Nat) : toS64 (n % 18446744073709551616) = toS64 n := by simp only [toS64, Nat.mod_mod]

theorem binReadU8_cons (b : UInt8) (r : Bytes) : binReadU8 (b :: r) = .ok (b.toNat, r) := rfl

/-- A size within `MaxMessageSize` is its own low 32 bits, and passes `checkSizeForProtocol` after the
conversion to int32. -/
theorem size_mod {n : Nat} (h : n ≤ maxMessageSize) : n % 4294967296 = n :=
  Nat.mod_eq_of_lt (Nat.lt_of_le_of_lt h (by decide))

theorem checkSize_toI32 {n : Nat} (h : n ≤ maxMessageSize) : checkSize (toI32 n) = .ok n := by
  rw [toI32, size_mod h, if_pos (Nat.lt_of_le_of_lt h (by decide)), checkSize,
    if_neg (Int.not_lt.mpr (Int.natCast_nonneg n)), if_neg (Int.not_lt.mpr (Int.ofNat_le.mpr h)), Int.toNat_natCast]

theorem binReadSize_be (n : Nat) (rest : Bytes) (h : n ≤ maxMessageSize) :
    binReadSize (beBytes 4 n ++ rest) = .ok (n, rest) := by
  simp only [binReadSize, binReadBE_beBytes, Nat.reducePow, size_mod h, checkSize_toI32 h]

theorem binReadElemHdr_be (mk : Nat → Nat → Event) (tt n : Nat) (rest : Bytes) (ht : tt < 256) (h : n ≤ maxMessageSize) :
    binReadElemHdr mk (UInt8.ofNat tt :: (beBytes 4 n ++ rest)) = .ok (mk tt n, rest) := by
  simp only [binReadElemHdr, binReadU8_cons, binReadSize_be n rest h, UInt8.toNat_ofNat_of_lt' ht]

/-- Every read call returns what the corresponding write call was given (names excepted) and
consumes exactly the bytes that call wrote. -/
theorem binRead_binWrite (e : Event) (rest : Bytes) (h : BinFits e) :
    binRead (callOf e) (binWrite e ++ rest) = .ok (binErase e, rest) := by
  have p2 : (256 : Nat) ^ 2 = 65536 := by decide
  have p4 : (256 : Nat) ^ 4 = 4294967296 := by decide
  have p8 : (256 : Nat) ^ 8 = 18446744073709551616 := by decide
  cases e with
  | sb nm | se | fe | me | le | te | fs => rfl
  | fb nm tt id =>
    obtain ⟨h0, h1, h2, h3⟩ := h
    simp only [callOf, binWrite, binRead, List.cons_append, binReadU8_cons, UInt8.toNat_ofNat_of_lt' h1,
      binReadBE_beBytes, binErase]
    rw [if_neg (by omega), p2, toS16_mod, toS16_toU16 id ⟨h2, h3⟩]
  | mb kt vt n =>
    obtain ⟨h1, h2, h3⟩ := h
    simp only [callOf, binWrite, binRead, List.cons_append, binReadU8_cons, UInt8.toNat_ofNat_of_lt' h1, binErase]
    exact binReadElemHdr_be _ vt n rest h2 h3
  | lb tt n | tb tt n =>
    -- unfold before using the lemma: left to unification, `binRead` and `checkSize` are evaluated on the way
    simp only [callOf, binWrite, binRead, List.cons_append, binErase, binReadElemHdr_be _ tt n rest h.1 h.2]
  | bool b =>
    cases b <;> simp [callOf, binWrite, binRead, binReadU8, binErase]
  | byte n =>
    simp only [callOf, binWrite, binRead, List.cons_append, List.nil_append, binReadU8_cons, binErase]
    rw [UInt8.toNat_ofNat_of_lt' (toU8_lt n), toS8_toU8 n h]
  | i16 n =>
    simp only [callOf, binWrite, binRead, binReadBE_beBytes, binErase]
    rw [p2, toS16_mod, toS16_toU16 n h]
  | i32 n =>
    simp only [callOf, binWrite, binRead, binReadBE_beBytes, binErase]
    rw [p4, toI32_mod, toI32_toU32 n h]
  | i64 n =>
    simp only [callOf, binWrite, binRead, binReadBE_beBytes, binErase]
    rw [p8, toS64_mod, toS64_toU64 n h]
  | dbl bits =>
    simp only [callOf, binWrite, binRead, binReadBE_beBytes, binErase]
    rw [p8, Nat.mod_eq_of_lt h]
  | str flag b =>
    cases flag <;>
    simp only [callOf, binWrite, binRead, binReadStr, List.append_assoc, binReadSize_be b.length _ h,
      readN_append b.length b rest rfl, binErase]

theorem binEnc_cons (e : Event) (es : List Event) : binEnc (e :: es) = binWrite e ++ binEnc es := by
  simp [binEnc]

/-- Reading with the calls that mirror the writer's calls returns the written events (names
excepted) and leaves exactly what followed the encoding. -/
theorem binReads_binEnc : ∀ (es : List Event) (rest : Bytes), (∀ e ∈ es, BinFits e) →
    binReads (es.map callOf) (binEnc es ++ rest) = .ok (es.map binErase, rest) := by
  intro es
  induction es with
  | nil => intro rest _; simp [binReads, binEnc]
  | cons e es ih =>
    intro rest h
    obtain ⟨he, h⟩ := List.forall_mem_cons.mp h
    rw [binEnc_cons, List.append_assoc, List.map_cons, binReads, binRead_binWrite e _ he]
    simp only
    rw [ih rest h]
    simp
end FV.Thrift
