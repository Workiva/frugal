/-
The HTTP client response path of FV.Model.Receivers4 (C05 (e)). `httpRequest` is characterised by two equations
(`httpRequest_decoded`, `httpRequest_other`) that between them cover every response (`httpRequest_cases`).
-/
import FV.Model.Receivers4
import FV.Proofs.Receivers3

namespace FV.Recv4
open FV

/-- `Request` on a response below 300 (not 413) whose body decodes: `response[4:]` is only reached in range. -/
theorem httpRequest_decoded {status : Nat} (h1 : status ≠ 413) (h2 : status < 300) (b : Bytes) :
    httpRequest status (.decoded b) =
      if b.length < 4 then .err .invalidData
      else if b.length = 4 then (if rd32 b ≠ 0 then .err .invalidData else .nilTransport)
      else .transport (b.drop 4) := by
  unfold httpRequest
  rw [if_neg h1, if_neg (by omega)]
  -- the two sides differ in the last branch only, where `response[4:]` is in range
  exact ite_congr rfl (fun _ => rfl) fun h4 => ite_congr rfl (fun _ => rfl) fun h5 => by
    rw [sliceFrom_ok b 4 (by omega) (by omega)]; rfl

/-- Every other response is an error of the transport. -/
theorem httpRequest_other {status : Nat} {body : B64} (h : status = 413 ∨ 300 ≤ status ∨ body = .invalid) :
    ∃ e, httpRequest status body = .err e := by
  unfold httpRequest
  by_cases h1 : status = 413
  · exact ⟨_, if_pos h1⟩
  · rw [if_neg h1]
    by_cases h2 : status ≥ 300
    · exact ⟨_, if_pos h2⟩
    · rw [if_neg h2]
      rcases h with h | h | h
      · exact absurd h h1
      · exact absurd h h2
      · subst h; exact ⟨_, rfl⟩

theorem httpRequest_cases (status : Nat) (body : B64) :
    (status = 413 ∨ 300 ≤ status ∨ body = .invalid) ∨ (status ≠ 413 ∧ status < 300 ∧ ∃ b, body = .decoded b) := by
  cases body with
  | invalid => exact .inl (.inr (.inr rfl))
  | decoded b => by_cases h1 : status = 413 <;> by_cases h2 : 300 ≤ status <;> simp [*] <;> omega

theorem httpRequest_no_panic (status : Nat) (body : B64) : ∀ p, httpRequest status body ≠ .panic p := by
  intro p h
  rcases httpRequest_cases status body with ho | ⟨h1, h2, b, rfl⟩
  · obtain ⟨e, he⟩ := httpRequest_other ho
    rw [he] at h; cases h
  · rw [httpRequest_decoded h1 h2] at h
    split at h
    · cases h
    · split at h
      · split at h <;> cases h
      · cases h

/-- With the nil test in `Call`, every status and every body gives an error of the transport or a stage of
`processReply`: never a panic. -/
theorem httpCall_total (method : Bytes) (status : Nat) (body : B64) :
    (∃ e, httpCall true method status body = .req e) ∨ (∃ o, httpCall true method status body = .reply o) := by
  unfold httpCall
  split
  · exact Or.inl ⟨_, rfl⟩
  · rename_i p hp; exact absurd hp (httpRequest_no_panic _ _ p)
  · exact Or.inl ⟨_, rfl⟩
  · rename_i r _
    obtain ⟨o, ho⟩ := Recv3.processReply_total method r
    rw [ho]
    exact Or.inr ⟨o, rfl⟩

theorem httpCall_no_panic (method : Bytes) (status : Nat) (body : B64) : ∀ p, httpCall true method status body ≠ .panic p := by
  intro p h
  rcases httpCall_total method status body with ⟨e, he⟩ | ⟨o, ho⟩
  · rw [he] at h; cases h
  · rw [ho] at h; cases h

theorem httpReceived_total (dec : Bytes → B64) (method : Bytes) (status : Nat) (got : Option Bytes) :
    (∃ e, httpReceived dec true method status got = .req e) ∨ (∃ o, httpReceived dec true method status got = .reply o) := by
  unfold httpReceived
  split
  · exact Or.inl ⟨_, rfl⟩
  · cases got with
    | none => exact Or.inl ⟨_, rfl⟩
    | some b => exact httpCall_total method status (dec b)

/-- Under a Content-Length the client is handed the announced prefix, or a read error when less arrives. -/
theorem delivered_length {status : Nat} (h : status ≠ 204 ∧ status ≠ 304) (a : Nat) (sent : Bytes) :
    delivered status (.length a) sent = if a ≤ sent.length then some (sent.take a) else none := by
  unfold delivered
  rw [if_neg (by omega)]

end FV.Recv4
