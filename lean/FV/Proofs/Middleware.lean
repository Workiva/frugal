/-
For C16. `run_wrapsFrom` is the whole observation of a chain of wrapping middleware around ANY inner handler, by
induction on the chain; traces, counts and rewrites are read off it. A processor map is followed through `find`.
-/
import FV.Model.Middleware
import FV.Spec.Middleware

namespace FV.Mw
variable {α ρ : Type}

theorem compose_append (base : Handler α ρ) (ms ms' : List (Middleware α ρ)) :
    compose base (ms ++ ms') = compose (compose base ms) ms' := by
  simp [compose, List.foldl_append]

theorem compose_cons (base : Handler α ρ) (m : Middleware α ρ) (ms : List (Middleware α ρ)) :
    compose base (m :: ms) = compose (m base) ms := rfl

theorem wrapsFrom_append (ws ws' : List (W α ρ)) : ∀ k : Nat,
    wrapsFrom k (ws ++ ws') = wrapsFrom k ws ++ wrapsFrom (k + ws.length) ws' := by
  induction ws with
  | nil => intro k; simp [wrapsFrom]
  | cons w ws ih => intro k; simp [wrapsFrom, ih, Nat.add_assoc, Nat.add_comm 1]

theorem wrapsFrom_length (ws : List (W α ρ)) : ∀ k : Nat, (wrapsFrom k ws).length = ws.length := by
  induction ws with
  | nil => intro k; rfl
  | cons w ws ih => intro k; simp [wrapsFrom, ih]

theorem enters_cons (k : Nat) (w : W α ρ) (ws : List (W α ρ)) (a : α) :
    enters k (w :: ws) a = enters (k + 1) ws a ++ [Ev.enter k (preAll ws a)] := by
  simp [enters, List.range_succ_eq_map, List.map_reverse, Function.comp_def, Nat.add_assoc, Nat.add_comm 1]

theorem exits_cons (k : Nat) (w : W α ρ) (ws : List (W α ρ)) (r : ρ) :
    exits k (w :: ws) r = Ev.exit k r :: exits (k + 1) ws (w.post r) := by
  simp [exits, List.range_succ_eq_map, Function.comp_def, postAll, Nat.add_assoc, Nat.add_comm 1]

theorem run_wrapsFrom (ws : List (W α ρ)) : ∀ (h : Handler α ρ) (k : Nat) (a : α),
    compose h (wrapsFrom k ws) a =
      (postAll ws (h (preAll ws a)).1,
       enters k ws a ++ (h (preAll ws a)).2 ++ exits k ws (h (preAll ws a)).1) := by
  induction ws with
  | nil => intro h k a; simp [wrapsFrom, compose, preAll, postAll, enters, exits]
  | cons w ws ih =>
    intro h k a
    rw [wrapsFrom, compose_cons, ih, enters_cons, exits_cons]
    simp [wrap, preAll, postAll]

/-- The labels of `enters k ws` are `k, …, k + |ws| - 1`, each once: core's count over `range'`. -/
theorem count_enter_enters (i : Nat) (ws : List (W α ρ)) (k : Nat) (a : α) :
    (enters k ws a).countP (isEnter i) = if k ≤ i ∧ i < k + ws.length then 1 else 0 := by
  rw [← List.count_range_1', List.range'_eq_map_range, List.count, List.countP_map]
  simp [enters, List.countP_map, List.countP_reverse, Function.comp_def, isEnter]

theorem count_exit_enters (i : Nat) (ws : List (W α ρ)) (k : Nat) (a : α) :
    (enters k ws a).countP (isExit i) = 0 := by
  simp [enters, List.countP_eq_zero, isExit]

theorem count_base_enters (ws : List (W α ρ)) (k : Nat) (a : α) :
    (enters k ws a).countP isBase = 0 := by
  simp [enters, List.countP_eq_zero, isBase]

theorem count_exit_exits (i : Nat) (ws : List (W α ρ)) (k : Nat) (r : ρ) :
    (exits k ws r).countP (isExit i) = if k ≤ i ∧ i < k + ws.length then 1 else 0 := by
  rw [← List.count_range_1', List.range'_eq_map_range, List.count, List.countP_map]
  simp [exits, List.countP_map, Function.comp_def, isExit]

theorem count_enter_exits (i : Nat) (ws : List (W α ρ)) (k : Nat) (r : ρ) :
    (exits k ws r).countP (isEnter i) = 0 := by
  simp [exits, List.countP_eq_zero, isEnter]

theorem count_base_exits (ws : List (W α ρ)) (k : Nat) (r : ρ) :
    (exits k ws r).countP isBase = 0 := by
  simp [exits, List.countP_eq_zero, isBase]

theorem enters_tags (k : Nat) (ws : List (W α ρ)) (a : α) :
    (enters k ws a).map Ev.tag = (List.range ws.length).reverse.map (fun i => Tag.enter (k + i)) := by
  simp [enters, Function.comp_def, Ev.tag]

theorem exits_tags (k : Nat) (ws : List (W α ρ)) (r : ρ) :
    (exits k ws r).map Ev.tag = (List.range ws.length).map (fun i => Tag.exit (k + i)) := by
  simp [exits, Function.comp_def, Ev.tag]

theorem postAll_preserves (P : ρ → Prop) : ∀ (ws : List (W α ρ)) (r : ρ),
    (∀ w ∈ ws, ∀ r, P r → P (w.post r)) → P r → P (postAll ws r)
  | [], _, _, hr => hr
  | w :: t, r, h, hr => postAll_preserves P t (w.post r) (fun w' hw' => h w' (List.mem_cons_of_mem _ hw'))
      (h w List.mem_cons_self r hr)

theorem postAll_observers (ws : List (W α ρ)) (r : ρ) (h : ∀ w ∈ ws, w.post = id) : postAll ws r = r :=
  postAll_preserves (· = r) ws r (fun w hw x hx => by rw [h w hw]; exact hx) rfl

theorem preAll_observers : ∀ (ws : List (W α ρ)) (a : α), (∀ w ∈ ws, w.pre = id) → preAll ws a = a
  | [], _, _ => rfl
  | w :: t, a, h => by
    show w.pre (preAll t a) = a
    rw [preAll_observers t a fun w' hw' => h w' (List.mem_cons_of_mem _ hw'), h w List.mem_cons_self]; rfl

theorem addAll_newMethod (f : α → ρ) (ms : List (Middleware α ρ)) (added : List (Middleware α ρ)) :
    (newMethod f ms).addAll added = newMethod f (ms ++ added) := by
  induction added generalizing ms with
  | nil => simp [Method.addAll]
  | cons m t ih =>
    have : (newMethod f ms).addMiddleware m = newMethod f (ms ++ [m]) := by
      simp [Method.addMiddleware, newMethod, compose, List.foldl_append]
    simp only [Method.addAll, List.foldl_cons] at ih ⊢
    rw [this, ih]; simp

theorem find_insert (pm : ProcMap α ρ) (k k' : String) (m : Method α ρ) :
    (pm.insert k m).find k' = if k = k' then some m else pm.find k' := by
  induction pm with
  | nil => simp [ProcMap.insert, ProcMap.find]
  | cons x t ih =>
    obtain ⟨kx, mx⟩ := x
    simp only [ProcMap.insert]
    by_cases h : kx = k
    · subst h; simp only [if_true, ProcMap.find]
      by_cases h2 : kx = k' <;> simp [h2]
    · simp only [if_neg h, ProcMap.find, ih]
      by_cases h2 : kx = k'
      · subst h2; simp [Ne.symm h]
      · simp [h2]

theorem find_addMiddleware (pm : ProcMap α ρ) (mw : Middleware α ρ) (k : String) :
    (pm.addMiddleware mw).find k = (pm.find k).map (fun m => m.addMiddleware mw) := by
  induction pm with
  | nil => simp [ProcMap.addMiddleware, ProcMap.find]
  | cons x t ih =>
    obtain ⟨kx, mx⟩ := x
    simp only [ProcMap.addMiddleware, List.map_cons, ProcMap.find] at ih ⊢
    by_cases h : kx = k
    · simp [h]
    · simp [h, ih]

theorem find_addAll (added : List (Middleware α ρ)) : ∀ (pm : ProcMap α ρ) (k : String),
    (pm.addAll added).find k = (pm.find k).map (fun m => m.addAll added) := by
  induction added with
  | nil => intro pm k; simp [ProcMap.addAll, Method.addAll]
  | cons m t ih =>
    intro pm k
    simp only [ProcMap.addAll, Method.addAll, List.foldl_cons] at ih ⊢
    rw [ih, find_addMiddleware]; simp [Option.map_map, Function.comp_def]

/-- The inner fold of `genProcessor` against the fold of `lastOp`: if `k` dispatches to the function registered last so
far (`acc`) composed with `ctor`, it still does after `ops` have been registered. -/
theorem find_register (ctor : List (Middleware α ρ)) (k : String) (ops : List (Op α ρ)) :
    ∀ (pm : ProcMap α ρ) (acc : Option (α → ρ)),
      pm.find k = acc.map (fun f => newMethod f ctor) →
      (ops.foldl (fun pm op => pm.insert op.1 (newMethod op.2 (processorWiring ctor))) pm).find k =
        (ops.foldl (fun acc op => if op.1 = k then some op.2 else acc) acc).map (fun f => newMethod f ctor) := by
  induction ops with
  | nil => intro pm acc h; simpa using h
  | cons op t ih =>
    intro pm acc h
    simp only [List.foldl_cons]
    apply ih
    rw [find_insert]
    by_cases hk : op.1 = k
    · simp [hk, processorWiring]
    · simp [hk, h]

theorem genProcessor_flatten (chain : List (List (Op α ρ))) (ctor : List (Middleware α ρ)) :
    genProcessor chain ctor =
      chain.flatten.foldl (fun (pm : ProcMap α ρ) op => pm.insert op.1 (newMethod op.2 (processorWiring ctor))) [] := by
  simp [genProcessor, List.foldl_flatten]

theorem mem_genClient (chain : List (List (Op α ρ))) (ctor prov : List (Middleware α ρ))
    (km : String × Method α ρ) (h : km ∈ genClient chain ctor prov) :
    ∃ op ∈ chain.flatten, km = (op.1, newMethod op.2 (ctor ++ prov)) := by
  induction chain with
  | nil => simp [genClient] at h
  | cons leaf parents ih =>
    simp only [genClient, List.mem_append, List.mem_map] at h
    rcases h with h | ⟨op, hop, rfl⟩
    · obtain ⟨op, hop, e⟩ := ih h
      exact ⟨op, by simp [hop], e⟩
    · exact ⟨op, by simp [hop], rfl⟩

end FV.Mw
