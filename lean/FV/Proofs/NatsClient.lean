/-
Invariant of the NATS client transport life-cycle model (C15).
-/
import FV.Model.NatsClient
import FV.Proofs.ListAux
namespace FV.NatsClient

/-- Invariant: no channel misuse so far; the incarnations are closed ones (exactly one value, channel closed),
followed by the open one (no value, channel open) while the transport is subscribed. -/
structure NInv (s : Sys) : Prop where
  noPanic : s.panicked = false
  shape : ∃ n, s.incs = List.replicate n ⟨1, true⟩ ++ if s.sub then [⟨0, false⟩] else []

theorem ninv_init : NInv init := ⟨rfl, 0, rfl⟩

theorem ninv_env {s : Sys} (h : NInv s) (c : Conn) (b : Bool) : NInv { s with conn := c, broker := b } :=
  ⟨h.noPanic, h.shape⟩

/-- Every incarnation but the open one has exactly one value and a closed channel; the open one has none. -/
theorem NInv.each {s : Sys} (h : NInv s) (k : Nat) (i : Inc) (hk : s.incs[k]? = some i) :
    if s.sub = true ∧ k + 1 = s.incs.length then i.sent = 0 ∧ i.chanClosed = false
    else i.sent = 1 ∧ i.chanClosed = true := by
  obtain ⟨n, hn⟩ := h.shape
  rw [hn] at hk ⊢
  cases hs : s.sub with
  | false =>
    obtain ⟨-, rfl⟩ : k < n ∧ _ = i := by simpa [hs, List.getElem?_replicate] using hk
    simp
  | true =>
    rw [hs, if_pos rfl] at hk
    rcases getElem?_concat_some.mp hk with hk | ⟨rfl, rfl⟩
    · obtain ⟨hlt, rfl⟩ : k < n ∧ _ = i := by simpa [List.getElem?_replicate] using hk
      simp; omega
    · simp

/-- On an open transport `fBaseTransport.Close` writes the one value to the open incarnation's channel and
closes it. -/
theorem baseClose_open {s : Sys} (h : NInv s) (hs : s.sub = true) :
    ∃ n, s.incs = List.replicate n ⟨1, true⟩ ++ [⟨0, false⟩] ∧
      baseClose { s with sub := false } = { s with sub := false, incs := List.replicate (n + 1) ⟨1, true⟩ } := by
  obtain ⟨n, hn⟩ := h.shape
  rw [hs, if_pos rfl] at hn
  refine ⟨n, hn, ?_⟩
  simp only [baseClose, hn, List.getLast?_concat, List.dropLast_concat, List.replicate_succ']
  rfl

theorem ninv_step {s : Sys} (h : NInv s) (a : Act) : NInv (step s a).1 := by
  cases a with
  | isOpen => exact h
  | request => exact h
  | connClose => exact ninv_env h _ _
  | brokerDown => exact ninv_env h _ _
  | brokerUp => exact ninv_env h _ _
  | «open» =>
    simp only [step]
    split
    · exact h
    · split
      · exact h
      · rename_i _ hs
        obtain ⟨n, hn⟩ := h.shape
        exact ⟨h.noPanic, n, by simpa [hs] using hn⟩
  | close =>
    simp only [step]
    split
    · exact h
    · rename_i hs
      split
      · exact h
      · -- Unsubscribe succeeded: publish on the open incarnation's channel
        obtain ⟨n, -, e⟩ := baseClose_open h (by simpa using hs)
        rw [e]
        exact ⟨h.noPanic, n + 1, by simp⟩

theorem ninv_run {s : Sys} (h : NInv s) (as : List Act) : NInv (run s as) := by
  induction as generalizing s with
  | nil => exact h
  | cons a t ih => exact ih (ninv_step h a)

theorem ninv_reachable {s : Sys} (h : Reachable s) : NInv s := by
  obtain ⟨as, rfl⟩ := h; exact ninv_run ninv_init as
end FV.NatsClient
