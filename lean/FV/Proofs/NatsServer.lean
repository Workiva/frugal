/- Invariants, progress and termination measure of the NATS server shutdown model (FV.Model.NatsServer). -/
import FV.Model.NatsServer
namespace FV.NS

def wkMsgs : Wk → List Msg
  | .busy m | .locking m | .writing m | .overflow m | .written m | .publishing m => [m]
  | .idle | .exited => []
def cbMsgs : Cb → List Msg | .sending m => [m] | _ => []
/-- Everything a subscription holds: in flight at the broker, pending in nats.go, with its handler. -/
def subAll (sb : Sub) : List Msg := sb.inflight ++ sb.pending ++ cbMsgs sb.cb
def subCb (sb : Sub) : List Msg := cbMsgs sb.cb
/-- Concatenation of what each element holds. -/
def flat {α : Type} (f : α → List Msg) : List α → List Msg | [] => [] | x :: xs => f x ++ flat f xs
def busyList (ws : List Wk) : List Msg := flat wkMsgs ws
/-- The states in which a worker holds the processor's write mutex. -/
def holds : Wk → Bool
  | .writing _ | .overflow _ | .written _ => true
  | _ => false
/-- Serve's program counter as its position in program order: `rank < 2` is before Unsubscribe, `2 < rank` after
`Flush` returned, `3 < rank` after the barrier wait (fired or failed), `4 < rank` once Stop has the result,
`5 < rank` once the work queue is closed. -/
def rank : ServePc → Nat
  | .running => 0 | .gotQuit => 1 | .unsubbed => 2 | .barrierWait => 3
  | .barrierDone => 4 | .resultSent => 5 | .closedQ => 6 | .returned => 7

/-- Where a request the server took over can be: with a handler, in the queue, with a worker, answered. -/
def held (s : Sys) : List Msg := flat subCb s.subs ++ s.workC ++ busyList s.workers ++ s.replied
/-- Where an accepted request can be. -/
def loc (s : Sys) : List Msg := flat subAll s.subs ++ s.workC ++ busyList s.workers ++ s.replied ++ s.dropped

/-- `step` read as rules: one for every branch of `step` that returns a state, with the guards of that branch. -/
inductive Step (s : Sys) : Action → Sys → Prop
  | arrive {j m sb} : s.subs[j]? = some sb → s.active = true → m ∉ s.arrived →
      Step s (.arrive j m) { s with subs := s.subs.set j { sb with inflight := sb.inflight ++ [m] }, arrived := s.arrived ++ [m] }
  | fault : s.faulty = false → Step s .fault { s with faulty := true }
  | deliver {j sb m rest} : s.subs[j]? = some sb → sb.inflight = m :: rest →
      Step s (.deliver j) { s with subs := s.subs.set j { sb with inflight := rest, pending := sb.pending ++ [m] } }
  | cbStartStopped {j sb m rest} : s.subs[j]? = some sb → sb.cb = .idle → sb.pending = m :: rest → s.guarded = true → s.closed = true →
      Step s (.cbStart j) { s with subs := s.subs.set j { sb with pending := rest }, dropped := s.dropped ++ [m] }
  | cbStart {j sb m rest} : s.subs[j]? = some sb → sb.cb = .idle → sb.pending = m :: rest → ¬ (s.guarded = true ∧ s.closed = true) →
      Step s (.cbStart j) { s with subs := s.subs.set j { sb with cb := .sending m, pending := rest }, handed := s.handed ++ [m] }
  | handlerEnqueueClosed {j sb m} : s.subs[j]? = some sb → sb.cb = .sending m → s.closed = true →
      Step s (.handlerEnqueue j) { s with subs := s.subs.set j { sb with cb := .idle }, panicked := true }
  | handlerEnqueue {j sb m} : s.subs[j]? = some sb → sb.cb = .sending m → s.closed = false → s.workC.length < s.q →
      Step s (.handlerEnqueue j) { s with subs := s.subs.set j { sb with cb := .sent m }, workC := s.workC ++ [m] }
  | callbackDone {j sb m} : s.subs[j]? = some sb → sb.cb = .sent m →
      Step s (.callbackDone j) { s with subs := s.subs.set j { sb with cb := .idle } }
  | workerTake {i m rest} : s.workers[i]? = some .idle → s.workC = m :: rest →
      Step s (.workerTake i) { s with workC := rest, workers := s.workers.set i (.busy m), processed := s.processed ++ [m] }
  | workerHandoff {i j sb m} : s.workers[i]? = some .idle → s.subs[j]? = some sb → sb.cb = .sending m → s.closed = false → s.workC = [] →
      Step s (.workerHandoff i j) { s with subs := s.subs.set j { sb with cb := .sent m }, workers := s.workers.set i (.busy m), processed := s.processed ++ [m] }
  | workerHandlerDone {i m} : s.workers[i]? = some (.busy m) →
      Step s (.workerHandlerDone i) { s with workers := s.workers.set i (.locking m) }
  | workerLock {i m} : s.workers[i]? = some (.locking m) → s.wmu = none →
      Step s (.workerLock i) { s with workers := s.workers.set i (.writing m), wmu := some i }
  | workerWriteOk {i m} : s.workers[i]? = some (.writing m) →
      Step s (.workerWriteOk i) { s with workers := s.workers.set i (.written m) }
  | workerOverflow {i m} : s.workers[i]? = some (.writing m) →
      Step s (.workerOverflow i) { s with workers := s.workers.set i (.overflow m) }
  | workerErrReply {i m} : s.workers[i]? = some (.overflow m) → ¬ (s.reentrant = true ∧ s.wmu ≠ none) →
      Step s (.workerErrReply i) { s with workers := s.workers.set i (.written m) }
  | workerUnlock {i m} : s.workers[i]? = some (.written m) →
      Step s (.workerUnlock i) { s with workers := s.workers.set i (.publishing m), wmu := none }
  | workerReply {i m} : s.workers[i]? = some (.publishing m) →
      Step s (.workerReply i) { s with workers := s.workers.set i .idle, replied := s.replied ++ [m] }
  | workerExit {i} : s.workers[i]? = some .idle → s.closed = true → s.workC = [] →
      Step s (.workerExit i) { s with workers := s.workers.set i .exited }
  | stopCall : s.stop = .notCalled → Step s .stopCall { s with stop := .atQuit }
  | serveGotQuit : s.serve = .running → s.stop = .atQuit → Step s .serveGotQuit { s with serve := .gotQuit, stop := .waitResult }
  | drainStart : s.serve = .gotQuit → Step s .drainStart { s with serve := .unsubbed, active := false }
  | drainStartIgnored : s.faulty = true → s.serve = .gotQuit → Step s .drainStartIgnored { s with serve := .unsubbed }
  | flushBarrier : s.serve = .unsubbed → (∀ sb ∈ s.subs, sb.inflight = []) →
      Step s .flushBarrier { s with serve := .barrierWait, barrier := true }
  | barrierFires : s.serve = .barrierWait → s.barrier = true → drained s = true →
      Step s .barrierFires { s with serve := .barrierDone, barrier := false }
  | drainFail : s.faulty = true → s.serve = .gotQuit ∨ s.serve = .unsubbed ∨ s.serve = .barrierWait →
      Step s .drainFail { s with serve := .barrierDone, barrier := false }
  | sendResult : s.serve = .barrierDone → s.stop = .waitResult → Step s .sendResult { s with serve := .resultSent, stop := .gotResult }
  | stopReturn : s.stop = .gotResult → Step s .stopReturn { s with stop := .returned }
  | closeWorkC : s.serve = .resultSent → (s.guarded = true → ∀ sb ∈ s.subs, sb.cb = .idle) →
      Step s .closeWorkC { s with serve := .closedQ, closed := true }
  | serveReturn : s.serve = .closedQ → (∀ w ∈ s.workers, w = .exited) → Step s .serveReturn { s with serve := .returned }

theorem step_sound {s s' : Sys} {a : Action} (hs : step s a = some s') : Step s a s' := by
  revert hs; fun_cases step s a <;> intro hs <;> cases hs
  -- `grind` for the guards that `step` writes as a conjunction, a negation or with `List.all`
  all_goals (constructor <;> first | assumption | grind [allExited])

/-- Sum over a list: of the counts below, of the weights in the termination measure. -/
def sumW {α : Type} (f : α → Nat) : List α → Nat | [] => 0 | x :: xs => f x + sumW f xs

theorem sumW_set {α : Type} (f : α → Nat) (ws : List α) (i : Nat) (u v : α) (h : ws[i]? = some u) :
    sumW f (ws.set i v) + f u = sumW f ws + f v := by
  induction ws generalizing i with
  | nil => simp at h
  | cons w ws ih =>
    cases i with
    | zero => simp at h; subst h; simp [sumW]; omega
    | succ i => simp at h; have := ih i h; simp [sumW]; omega

theorem count_flat {α : Type} (f : α → List Msg) (m : Msg) (l : List α) :
    (flat f l).count m = sumW (fun a => (f a).count m) l := by
  induction l with
  | nil => rfl
  | cons a t ih => rw [flat, List.count_append, ih]; rfl

theorem count_flat_set {α : Type} (f : α → List Msg) (m : Msg) (l : List α) (i : Nat) (u v : α) (h : l[i]? = some u) :
    (flat f (l.set i v)).count m + (f u).count m = (flat f l).count m + (f v).count m := by
  rw [count_flat, count_flat]; exact sumW_set _ l i u v h

theorem forall_set {α : Type} {P : α → Prop} {l : List α} (i : Nat) (v : α) (h : ∀ x ∈ l, P x) (hv : P v) :
    ∀ x ∈ l.set i v, P x := by
  intro x hx
  rcases List.mem_or_eq_of_mem_set hx with h1 | h1
  · exact h x h1
  · rw [h1]; exact hv

/-- The invariant of the code as repaired (`gd`, `lo`: close under `sendMu`, the drain waits for every
subscription), with or without the re-locking mutation and with or without a fault: where every request is, and
what each position of Serve (`rank`) implies for the flags, the subscriptions, the workers and Stop. -/
structure SInv (s : Sys) : Prop where
  gd : s.guarded = true
  lo : s.lastOnly = false
  -- conservation: an accepted request is in exactly one place, a request taken over likewise, none arrived twice,
  -- and what was processed is with a worker or answered
  cnt : ∀ m, (loc s).count m = s.arrived.count m
  hcnt : ∀ m, s.handed.count m = (held s).count m
  nodup : ∀ m, s.arrived.count m ≤ 1
  proc : ∀ m, s.processed.count m = (busyList s.workers).count m + s.replied.count m
  -- the work queue is closed exactly from `closedQ` on, and then no handler is inside its send
  clo : s.closed = true ↔ 5 < rank s.serve
  cidle : s.closed = true → ∀ sb ∈ s.subs, sb.cb = .idle
  -- an undisturbed drain: the broker has the subscriptions exactly until Unsubscribe, nothing is in flight once
  -- `Flush` returned, nothing pending or in a callback once the barrier fired, nothing was ever turned away
  act : s.faulty = false → (s.active = true ↔ rank s.serve < 2)
  infl : s.faulty = false → 2 < rank s.serve → ∀ sb ∈ s.subs, sb.inflight = []
  pend : s.faulty = false → 3 < rank s.serve → ∀ sb ∈ s.subs, sb.pending = [] ∧ sb.cb = .idle
  drp : s.faulty = false → s.dropped = []
  -- Serve returns only after every worker has, and a worker exits only on the closed, empty queue
  ret : s.serve = .returned → ∀ w ∈ s.workers, w = .exited
  ex : .exited ∈ s.workers → s.closed = true ∧ s.workC = []
  pan : s.panicked = false
  bar : s.barrier = true ↔ s.serve = .barrierWait
  -- Stop's program counter follows Serve's: before the rendezvous on `quit`, between it and the result, after
  st0 : rank s.serve = 0 → s.stop = .notCalled ∨ s.stop = .atQuit
  st1 : 0 < rank s.serve → rank s.serve < 5 → s.stop = .waitResult
  st2 : 4 < rank s.serve → s.stop = .gotResult ∨ s.stop = .returned
  -- the write mutex names exactly the worker in a state that holds it (`holds`)
  mu1 : ∀ (i : Nat) (w : Wk), s.workers[i]? = some w → holds w = true → s.wmu = some i
  mu2 : ∀ (i : Nat), s.wmu = some i → ∃ w, s.workers[i]? = some w ∧ holds w = true

theorem SInv.holds_iff {s : Sys} (hi : SInv s) {i : Nat} {u : Wk} (hw : s.workers[i]? = some u) :
    holds u = true ↔ s.wmu = some i :=
  ⟨hi.mu1 i u hw, fun h => by obtain ⟨w, h1, h2⟩ := hi.mu2 i h; rw [hw] at h1; cases h1; exact h2⟩

/-- Subscription `j` goes from `sb` to `sb'`, and the queue and the histories change with it: `SInv` survives
when the request counts balance and what the program counters demanded of `sb` still holds of `sb'`. -/
theorem sinv_sub {s : Sys} (hi : SInv s) {j : Nat} {sb sb' : Sub} (hsb : s.subs[j]? = some sb) {wc ar hd dr : List Msg}
    (cnt : ∀ x, (subAll sb').count x + wc.count x + dr.count x + s.arrived.count x
      = (subAll sb).count x + s.workC.count x + s.dropped.count x + ar.count x)
    (hcnt : ∀ x, (subCb sb').count x + wc.count x + s.handed.count x = (subCb sb).count x + s.workC.count x + hd.count x)
    (nodup : ∀ x, ar.count x ≤ 1)
    (cidle : s.closed = true → sb.cb = .idle → sb'.cb = .idle ∧ wc = s.workC)
    (infl : s.faulty = false → 2 < rank s.serve → sb.inflight = [] → sb'.inflight = [])
    (pend : s.faulty = false → 3 < rank s.serve → sb.pending = [] ∧ sb.cb = .idle → sb'.pending = [] ∧ sb'.cb = .idle)
    (drp : s.faulty = false → dr = []) :
    SInv { s with subs := s.subs.set j sb', workC := wc, arrived := ar, handed := hd, dropped := dr } :=
  have hmem := List.mem_of_getElem? hsb
  { hi with
    cnt := fun x => by
      have := hi.cnt x; have := count_flat_set subAll x s.subs j sb sb' hsb; have := cnt x
      simp only [loc, List.count_append] at *; omega
    hcnt := fun x => by
      have := hi.hcnt x; have := count_flat_set subCb x s.subs j sb sb' hsb; have := hcnt x
      simp only [held, List.count_append] at *; omega
    nodup := nodup
    cidle := fun hc => forall_set j _ (hi.cidle hc) (cidle hc (hi.cidle hc sb hmem)).1
    infl := fun hf h => forall_set j _ (hi.infl hf h) (infl hf h (hi.infl hf h sb hmem))
    pend := fun hf h => forall_set j _ (hi.pend hf h) (pend hf h (hi.pend hf h sb hmem))
    drp := drp
    ex := fun h => by have := hi.ex h; rw [(cidle this.1 (hi.cidle this.1 sb hmem)).2]; exact this }

/-- Worker `i` goes from `u` to `v`, and the queue, the mutex and the histories change with it: `SInv` survives
when the request counts balance, `i` has the mutex afterwards exactly if `v` holds it, and nothing changes for the others. -/
theorem sinv_wk {s : Sys} (hi : SInv s) {i : Nat} {u v : Wk} (hw : s.workers[i]? = some u) {wc pr rp : List Msg} {mu : Option Nat}
    (cnt : ∀ x, wc.count x + (wkMsgs v).count x + rp.count x = s.workC.count x + (wkMsgs u).count x + s.replied.count x)
    (proc : ∀ x, pr.count x + (wkMsgs u).count x + s.replied.count x = s.processed.count x + (wkMsgs v).count x + rp.count x)
    (hu : u ≠ .exited) (hq : s.workC = [] → wc = []) (hv : v = .exited → s.closed = true ∧ s.workC = [])
    (hmu : holds v = true ↔ mu = some i) (hoth : ∀ j, j ≠ i → (mu = some j ↔ s.wmu = some j)) :
    SInv { s with workC := wc, workers := s.workers.set i v, wmu := mu, processed := pr, replied := rp } :=
  have hb := fun x => count_flat_set wkMsgs x s.workers i u v hw
  have hlt : i < s.workers.length := (List.getElem?_eq_some_iff.mp hw).1
  { hi with
    cnt := fun x => by
      have := hi.cnt x; have := hb x; have := cnt x
      simp only [loc, busyList, List.count_append] at *; omega
    hcnt := fun x => by
      have := hi.hcnt x; have := hb x; have := cnt x
      simp only [held, busyList, List.count_append] at *; omega
    proc := fun x => by have := hi.proc x; have := hb x; have := proc x; simp only [busyList] at *; omega
    ret := fun h => absurd (hi.ret h u (List.mem_of_getElem? hw)) hu
    ex := fun h => by
      rcases List.mem_or_eq_of_mem_set h with h | h
      · exact ⟨(hi.ex h).1, hq (hi.ex h).2⟩
      · exact ⟨(hv h.symm).1, hq (hv h.symm).2⟩
    mu1 := fun j w hj hhw => by
      by_cases e : j = i
      · subst e; rw [List.getElem?_set_self hlt] at hj; cases hj; exact hmu.mp hhw
      · rw [List.getElem?_set_ne (Ne.symm e)] at hj; exact (hoth j e).mpr (hi.mu1 j w hj hhw)
    mu2 := fun j hj => by
      by_cases e : j = i
      · subst e; exact ⟨v, List.getElem?_set_self hlt, hmu.mpr hj⟩
      · obtain ⟨w, h1, h2⟩ := hi.mu2 j ((hoth j e).mp hj)
        exact ⟨w, by rw [List.getElem?_set_ne (Ne.symm e)]; exact h1, h2⟩ }

/-- A handler's send into the queue: `handlerEnqueue`, and the first half of a hand-off. -/
theorem sinv_enqueue {s : Sys} (hi : SInv s) {j : Nat} {sb : Sub} {m : Msg} (hsb : s.subs[j]? = some sb)
    (hcb : sb.cb = .sending m) (hncl : s.closed = false) :
    SInv { s with subs := s.subs.set j { sb with cb := .sent m }, workC := s.workC ++ [m] } := by
  refine sinv_sub hi hsb ?_ ?_ hi.nodup ?_ (fun _ _ => id) (fun _ _ h => nomatch hcb.symm.trans h.2) hi.drp
  · intro x; simp only [subAll, hcb, cbMsgs, List.count_append, List.count_cons, List.count_nil]; omega
  · intro x; simp only [subCb, hcb, cbMsgs, List.count_append, List.count_cons, List.count_nil]; omega
  · intro h; rw [hncl] at h; cases h

/-- An idle worker takes the head of the queue: `workerTake`, and the second half of a hand-off. -/
theorem sinv_take {s : Sys} (hi : SInv s) {i : Nat} {m : Msg} {rest : List Msg} (hw : s.workers[i]? = some .idle)
    (hq : s.workC = m :: rest) :
    SInv { s with workC := rest, workers := s.workers.set i (.busy m), processed := s.processed ++ [m] } := by
  refine sinv_wk hi hw ?_ ?_ nofun (fun h => by simp [hq] at h) nofun (hi.holds_iff hw :) (fun _ _ => .rfl)
  · intro x; simp only [hq, wkMsgs, List.count_cons, List.count_nil]; omega
  · intro x; simp only [wkMsgs, List.count_append, List.count_cons, List.count_nil]; omega

theorem sinv_step {s s' : Sys} {a : Action} (hi : SInv s) (hs : Step s a s') : SInv s' := by
  cases hs with
  | @arrive j m sb hsb hact hm =>
    have h0 : s.arrived.count m = 0 := List.count_eq_zero.mpr hm
    -- without a fault the broker accepts only before the drain: rank < 2
    refine sinv_sub hi hsb ?_ (fun _ => rfl) ?_ (fun _ h => ⟨h, rfl⟩) ?_ ?_ hi.drp
    · intro x; simp only [subAll, List.count_append]; omega
    · intro x; have := hi.nodup x; by_cases hx : m = x <;> simp_all [List.count_append]
    · intro hf h; have := (hi.act hf).mp hact; omega
    · intro hf h; have := (hi.act hf).mp hact; omega
  | fault _ => exact { hi with act := nofun, infl := nofun, pend := nofun, drp := nofun }
  | @deliver j sb m rest hsb hm =>
    refine sinv_sub hi hsb ?_ (fun _ => rfl) hi.nodup (fun _ h => ⟨h, rfl⟩) (fun _ _ h => nomatch hm.symm.trans h) ?_ hi.drp
    · intro x; simp only [subAll, hm, List.count_append, List.count_cons, List.count_nil]; omega
    · intro hf h; exact nomatch hm.symm.trans (hi.infl hf (by omega) sb (List.mem_of_getElem? hsb))
  | @cbStartStopped j sb m rest hsb hcb hm _ hc =>
    -- without a fault the queue is closed only after every pending list is empty
    have hf : s.faulty = true := by
      cases hf : s.faulty with
      | true => rfl
      | false => exact nomatch hm.symm.trans (hi.pend hf (by have := hi.clo.mp hc; omega) sb (List.mem_of_getElem? hsb)).1
    refine sinv_sub hi hsb ?_ (fun _ => rfl) hi.nodup (fun _ h => ⟨h, rfl⟩) ?_ ?_ ?_
    · intro x; simp only [subAll, hm, List.count_append, List.count_cons, List.count_nil]; omega
    all_goals (intro h; rw [hf] at h; cases h)
  | @cbStart j sb m rest hsb hcb hm hc =>
    have hncl : s.closed = false := by
      cases hcl : s.closed with
      | false => rfl
      | true => exact absurd ⟨hi.gd, hcl⟩ hc
    refine sinv_sub hi hsb ?_ ?_ hi.nodup ?_ (fun _ _ => id) (fun _ _ h => nomatch hm.symm.trans h.1) hi.drp
    · intro x; simp only [subAll, hm, hcb, cbMsgs, List.count_append, List.count_cons, List.count_nil]; omega
    · intro x; simp only [subCb, hcb, cbMsgs, List.count_append, List.count_cons, List.count_nil]; omega
    · intro h; rw [hncl] at h; cases h
  | @handlerEnqueueClosed j sb m hsb hcb hc => have := hi.cidle hc sb (List.mem_of_getElem? hsb); rw [hcb] at this; cases this
  | handlerEnqueue hsb hcb hncl _ => exact sinv_enqueue hi hsb hcb hncl
  | @callbackDone j sb m hsb hcb =>
    refine sinv_sub hi hsb ?_ ?_ hi.nodup (fun _ _ => ⟨rfl, rfl⟩) (fun _ _ => id) (fun _ _ h => ⟨h.1, rfl⟩) hi.drp
    · intro x; simp only [subAll, hcb, cbMsgs]
    · intro x; simp only [subCb, hcb, cbMsgs]
  | workerTake hw hq => exact sinv_take hi hw hq
  | workerHandoff hw hsb hcb hncl hq =>
    -- a hand-off is an enqueue and a take in one step
    have := sinv_take (sinv_enqueue hi hsb hcb hncl) hw (by simp only [hq]; rfl)
    rw [hq]; exact this
  | workerHandlerDone hw | workerWriteOk hw | workerOverflow hw | workerErrReply hw _ =>
    exact sinv_wk hi hw (fun _ => rfl) (fun _ => rfl) nofun id nofun (hi.holds_iff hw :) (fun _ _ => .rfl)
  | @workerLock i m hw hfree =>
    exact sinv_wk hi hw (fun _ => rfl) (fun _ => rfl) nofun id nofun ⟨fun _ => rfl, fun _ => rfl⟩
      (fun j e => by simp [hfree]; omega)
  | @workerUnlock i m hw =>
    exact sinv_wk hi hw (fun _ => rfl) (fun _ => rfl) nofun id nofun ⟨nofun, nofun⟩
      (fun j e => by simp [hi.mu1 i _ hw rfl]; omega)
  | @workerReply i m hw =>
    refine sinv_wk hi hw ?_ ?_ nofun id nofun (hi.holds_iff hw :) (fun _ _ => .rfl)
    · intro x; simp only [wkMsgs, List.count_append, List.count_cons, List.count_nil]; omega
    · intro x; simp only [wkMsgs, List.count_append, List.count_cons, List.count_nil]; omega
  | @workerExit i hw hc hq =>
    exact sinv_wk hi hw (fun _ => rfl) (fun _ => rfl) nofun id (fun _ => ⟨hc, hq⟩) (hi.holds_iff hw :) (fun _ _ => .rfl)
  | stopCall h => exact { hi with
      st0 := fun _ => .inr rfl
      st1 := fun h1 h2 => by simp [hi.st1 h1 h2] at h
      st2 := fun h1 => by have := hi.st2 h1; simp [h] at this }
  | serveGotQuit hpc hst => exact { hi with
      clo := by simpa [hpc, rank] using hi.clo
      act := by simpa [hpc, rank] using hi.act
      infl := by simp [rank]
      pend := by simp [rank]
      ret := nofun
      bar := by simpa [hpc] using hi.bar
      st0 := by simp [rank]
      st1 := fun _ _ => rfl
      st2 := by simp [rank] }
  | drainStart hpc => exact { hi with
      clo := by simpa [hpc, rank] using hi.clo
      act := by simp [rank]
      infl := by simp [rank]
      pend := by simp [rank]
      ret := nofun
      bar := by simpa [hpc] using hi.bar
      st0 := by simp [rank]
      st1 := by simpa [hpc, rank] using hi.st1
      st2 := by simp [rank] }
  | drainStartIgnored hf hpc => exact { hi with
      clo := by simpa [hpc, rank] using hi.clo
      act := by simp [hf]
      infl := by simp [hf]
      pend := by simp [hf]
      ret := nofun
      bar := by simpa [hpc] using hi.bar
      st0 := by simp [rank]
      st1 := by simpa [hpc, rank] using hi.st1
      st2 := by simp [rank] }
  | flushBarrier hpc hfl => exact { hi with
      clo := by simpa [hpc, rank] using hi.clo
      act := by simpa [hpc, rank] using hi.act
      infl := fun _ _ => hfl
      pend := by simp [rank]
      ret := nofun
      bar := by simp
      st0 := by simp [rank]
      st1 := by simpa [hpc, rank] using hi.st1
      st2 := by simp [rank] }
  | barrierFires hpc _ hdr => exact { hi with
      clo := by simpa [hpc, rank] using hi.clo
      act := by simpa [hpc, rank] using hi.act
      infl := by simpa [hpc, rank] using hi.infl
      pend := fun _ _ => by simpa [drained, hi.lo, Sub.quiet, List.all_eq_true] using hdr
      ret := nofun
      bar := by simp
      st0 := by simp [rank]
      st1 := by simpa [hpc, rank] using hi.st1
      st2 := by simp [rank] }
  | drainFail hf hpc => exact { hi with
      clo := by rcases hpc with h | h | h <;> simpa [h, rank] using hi.clo
      act := by simp [hf]
      infl := by simp [hf]
      pend := by simp [hf]
      ret := nofun
      bar := by simp
      st0 := by simp [rank]
      st1 := by rcases hpc with h | h | h <;> simpa [h, rank] using hi.st1
      st2 := by simp [rank] }
  | sendResult hpc hst => exact { hi with
      clo := by simpa [hpc, rank] using hi.clo
      act := by simpa [hpc, rank] using hi.act
      infl := by simpa [hpc, rank] using hi.infl
      pend := by simpa [hpc, rank] using hi.pend
      ret := nofun
      bar := by simpa [hpc] using hi.bar
      st0 := by simp [rank]
      st1 := by simp [rank]
      st2 := fun _ => .inl rfl }
  | stopReturn h => exact { hi with
      st0 := fun h1 => by have := hi.st0 h1; simp [h] at this
      st1 := fun h1 h2 => by simp [hi.st1 h1 h2] at h
      st2 := fun _ => .inr rfl }
  | closeWorkC hpc hg =>
    have hncl : s.closed = false := by simpa [hpc, rank] using hi.clo
    exact { hi with
      clo := by simp [rank]
      cidle := fun _ => hg hi.gd
      act := by simpa [hpc, rank] using hi.act
      infl := by simpa [hpc, rank] using hi.infl
      pend := by simpa [hpc, rank] using hi.pend
      ret := nofun
      ex := fun h => by simp [(hi.ex h).1] at hncl
      bar := by simpa [hpc] using hi.bar
      st0 := by simp [rank]
      st1 := by simp [rank]
      st2 := by simpa [hpc, rank] using hi.st2 }
  | serveReturn hpc hex => exact { hi with
      clo := by simpa [hpc, rank] using hi.clo
      act := by simpa [hpc, rank] using hi.act
      infl := by simpa [hpc, rank] using hi.infl
      pend := by simpa [hpc, rank] using hi.pend
      ret := fun _ => hex
      bar := by simpa [hpc] using hi.bar
      st0 := by simp [rank]
      st1 := by simp [rank]
      st2 := by simpa [hpc, rank] using hi.st2 }

theorem flat_eq_nil {α : Type} {f : α → List Msg} {l : List α} (h : ∀ x ∈ l, f x = []) : flat f l = [] := by
  induction l with
  | nil => rfl
  | cons a t ih => rw [flat, h a List.mem_cons_self, ih fun x hx => h x (List.mem_cons_of_mem _ hx)]; rfl

theorem sinv_init (re : Bool) (w q k : Nat) : SInv (initP true re false w q k) := by
  have h1 : flat subAll (List.replicate k (⟨[], [], .idle⟩ : Sub)) = [] :=
    flat_eq_nil fun _ h => List.eq_of_mem_replicate h ▸ rfl
  have h2 : flat subCb (List.replicate k (⟨[], [], .idle⟩ : Sub)) = [] :=
    flat_eq_nil fun _ h => List.eq_of_mem_replicate h ▸ rfl
  have h3 : busyList (List.replicate w Wk.idle) = [] := flat_eq_nil fun _ h => List.eq_of_mem_replicate h ▸ rfl
  refine ⟨rfl, rfl, ?_, ?_, ?_, ?_, ?_, ?_, ?_, ?_, ?_, ?_, ?_, ?_, rfl, ?_, ?_, ?_, ?_, ?_, ?_⟩ <;>
    simp [initP, loc, held, rank, h1, h2, h3]
  intro i w0 h
  have : w0 ∈ List.replicate w Wk.idle := List.mem_of_getElem? h
  rw [(List.mem_replicate.mp this).2]; rfl

def ReachableP (g re lo : Bool) (w q k : Nat) (s : Sys) : Prop := ∃ as, run (initP g re lo w q k) as = some s
/-- Reachable in the model of the code as it is (guarded close, no re-locking, the drain waits for every
subscription): w workers, queue length q, k subjects. -/
def Reachable (w q k : Nat) (s : Sys) : Prop := ReachableP true false false w q k s

theorem run_append (s : Sys) (as bs : List Action) :
    run s (as ++ bs) = (run s as).bind (fun s' => run s' bs) := by
  induction as generalizing s with
  | nil => simp [run]
  | cons a as ih =>
    simp only [List.cons_append, run]
    cases step s a with
    | none => simp
    | some s' => simpa using ih s'

theorem reachable_run {g re lo : Bool} {w q k : Nat} {s s' : Sys} {as : List Action} (hr : ReachableP g re lo w q k s) (h : run s as = some s') :
    ReachableP g re lo w q k s' := by
  obtain ⟨bs, hb⟩ := hr
  exact ⟨bs ++ as, by rw [run_append, hb]; simpa using h⟩

theorem run_induction {P : Sys → Prop} {s s' : Sys} {as : List Action} (h : run s as = some s') (h0 : P s)
    (hstep : ∀ t a t', P t → Step t a t' → P t') : P s' := by
  induction as generalizing s with
  | nil => cases h; exact h0
  | cons a as ih =>
    simp only [run] at h
    split at h
    · rename_i s1 h1; exact ih h (hstep _ _ _ h0 (step_sound h1))
    · cases h

theorem reachable_sinv {re : Bool} {w q k : Nat} {s : Sys} (hr : ReachableP true re false w q k s) : SInv s := by
  obtain ⟨as, h⟩ := hr
  exact run_induction h (sinv_init re w q k) fun _ _ _ => sinv_step

theorem step_params {s s' : Sys} {a : Action} (hs : Step s a s') :
    s'.workers.length = s.workers.length ∧ s'.reentrant = s.reentrant := by
  cases hs <;> simp

theorem reachable_params {g re lo : Bool} {w q k : Nat} {s : Sys} (hr : ReachableP g re lo w q k s) :
    s.workers.length = w ∧ s.reentrant = re := by
  obtain ⟨as, h⟩ := hr
  refine run_induction (P := fun s => s.workers.length = w ∧ s.reentrant = re)
    h (by simp [initP]) fun _ _ _ ht hs => ?_
  have := step_params hs
  simp_all

theorem step_grows {s s' : Sys} {a : Action} (hs : Step s a s') :
    (∀ m ∈ s.arrived, m ∈ s'.arrived) ∧ (∀ m ∈ s.handed, m ∈ s'.handed) ∧ (s.stop ≠ .notCalled → s'.stop ≠ .notCalled) := by
  cases hs with
  | arrive => exact ⟨fun _ h => List.mem_append_left _ h, fun _ h => h, id⟩
  | cbStart => exact ⟨fun _ h => h, fun _ h => List.mem_append_left _ h, id⟩
  | stopCall | serveGotQuit | sendResult | stopReturn => exact ⟨fun _ h => h, fun _ h => h, fun _ => nofun⟩
  | _ => exact ⟨fun _ h => h, fun _ h => h, id⟩

theorem run_grows {s s' : Sys} {as : List Action} (h : run s as = some s') :
    (∀ m ∈ s.arrived, m ∈ s'.arrived) ∧ (∀ m ∈ s.handed, m ∈ s'.handed) :=
  run_induction (P := fun t => (∀ m ∈ s.arrived, m ∈ t.arrived) ∧ (∀ m ∈ s.handed, m ∈ t.handed)) h ⟨fun _ h => h, fun _ h => h⟩
    fun _ _ _ ht hs => ⟨fun m hm => (step_grows hs).1 m (ht.1 m hm), fun m hm => (step_grows hs).2.1 m (ht.2 m hm)⟩

/-- Once the broker has dropped the subscriptions it stays that way and accepts nothing. -/
theorem step_inactive {s s' : Sys} {a : Action} (hs : Step s a s') (h : s.active = false) :
    s'.active = false ∧ s'.arrived = s.arrived := by
  cases hs with
  | arrive _ hact => rw [h] at hact; cases hact
  | _ => simp [h]

theorem not_all_get {α : Type} {P : α → Bool} {l : List α} (h : l.all P = false) :
    ∃ (i : Nat) (x : α), l[i]? = some x ∧ P x = false := by
  obtain ⟨x, hx, hp⟩ := List.all_eq_false.mp h
  obtain ⟨i, hi⟩ := List.getElem?_of_mem hx
  exact ⟨i, x, hi, by simpa using hp⟩

/-- A worker that carries a request can move, or the holder of the write mutex it waits for can:
the mutex is released on every path (without the re-locking mutation). -/
theorem worker_progress (s : Sys) (hi : SInv s) (hre : s.reentrant = false) (i : Nat) (u : Wk)
    (hu : s.workers[i]? = some u) (h1 : u ≠ .idle) (h2 : u ≠ .exited) :
    ∃ a, a.isWorker = true ∧ a.isSystem = true ∧ (step s a).isSome = true := by
  have holder : ∀ (j : Nat) (w : Wk), s.workers[j]? = some w → holds w = true →
      ∃ a, a.isWorker = true ∧ a.isSystem = true ∧ (step s a).isSome = true := by
    intro j w hw hh
    cases w with
    | writing m => exact ⟨.workerWriteOk j, rfl, rfl, by simp [step, hw]⟩
    | overflow m => exact ⟨.workerErrReply j, rfl, rfl, by simp [step, hw, hre]⟩
    | written m => exact ⟨.workerUnlock j, rfl, rfl, by simp [step, hw]⟩
    | _ => cases hh
  cases u with
  | idle => exact absurd rfl h1
  | exited => exact absurd rfl h2
  | busy m => exact ⟨.workerHandlerDone i, rfl, rfl, by simp [step, hu]⟩
  | locking m =>
    cases hm : s.wmu with
    | none => exact ⟨.workerLock i, rfl, rfl, by simp [step, hu, hm]⟩
    | some j =>
      obtain ⟨w, hw, hh⟩ := hi.mu2 j hm
      exact holder j w hw hh
  | writing m => exact holder i _ hu rfl
  | overflow m => exact holder i _ hu rfl
  | written m => exact holder i _ hu rfl
  | publishing m => exact ⟨.workerReply i, rfl, rfl, by simp [step, hu]⟩

/-- A callback goroutine inside `handler` can finish, and one blocked on the full queue is unblocked by the
system itself (w ≥ 1, queue still open). -/
theorem handler_progress (s : Sys) (hi : SInv s) (hre : s.reentrant = false) (hw : 1 ≤ s.workers.length)
    (j : Nat) (sb : Sub) (hsb : s.subs[j]? = some sb) (hbusy : sb.cb ≠ .idle) (hncl : s.closed = false) :
    ∃ a, a.isSystem = true ∧ (step s a).isSome = true := by
  cases hcb : sb.cb with
  | idle => exact absurd hcb hbusy
  | sent m => exact ⟨.callbackDone j, rfl, by simp [step, hsb, hcb]⟩
  | sending m =>
    obtain ⟨w0, hw0⟩ : ∃ w0, s.workers[0]? = some w0 := ⟨_, List.getElem?_eq_getElem hw⟩
    by_cases hroom : s.workC.length < s.q
    · exact ⟨.handlerEnqueue j, rfl, by simp [step, hsb, hcb, hncl, hroom]⟩
    · by_cases hidle : w0 = .idle
      · subst hidle
        cases hq : s.workC with
        | nil => exact ⟨.workerHandoff 0 j, rfl, by simp [step, hw0, hsb, hq, hcb, hncl]⟩
        | cons x rest => exact ⟨.workerTake 0, rfl, by simp [step, hw0, hq]⟩
      · by_cases hex : w0 = .exited
        · subst hex
          have := (hi.ex (List.mem_of_getElem? hw0)).1
          rw [hncl] at this; cases this
        · obtain ⟨a, _, ha, hen⟩ := worker_progress s hi hre 0 w0 hw0 hidle hex
          exact ⟨a, ha, hen⟩

/-- Some action of the system itself (not the broker accepting a request, not a fault, not the user
calling Stop) is enabled as long as Stop has been called and Serve or Stop has not returned. -/
theorem progress (s : Sys) (hi : SInv s) (hre : s.reentrant = false) (hw : 1 ≤ s.workers.length) (hstop : s.stop ≠ .notCalled)
    (hnot : ¬ (s.serve = .returned ∧ s.stop = .returned)) :
    ∃ a, a.isSystem = true ∧ (step s a).isSome = true := by
  cases hsv : s.serve with
  | running =>
    have hq := (hi.st0 (by rw [hsv]; rfl)).resolve_left hstop
    exact ⟨.serveGotQuit, rfl, by simp [step, hsv, hq]⟩
  | gotQuit => exact ⟨.drainStart, rfl, by simp [step, hsv]⟩
  | unsubbed =>
    cases hall : s.subs.all (fun sb => sb.inflight.isEmpty) with
    | true => exact ⟨.flushBarrier, rfl, by simp [step, hsv, hall]⟩
    | false =>
      obtain ⟨j, sb, hsb, hp⟩ := not_all_get hall
      cases hin : sb.inflight with
      | nil => simp [hin] at hp
      | cons m rest => exact ⟨.deliver j, rfl, by simp [step, hsb, hin]⟩
  | barrierWait =>
    have hbar : s.barrier = true := hi.bar.mpr hsv
    have hncl : s.closed = false := by simpa [hsv, rank] using hi.clo
    cases hall : s.subs.all Sub.quiet with
    | true => exact ⟨.barrierFires, rfl, by simp [step, hsv, hbar, drained, hi.lo, hall]⟩
    | false =>
      obtain ⟨j, sb, hsb, hp⟩ := not_all_get hall
      by_cases hcb : sb.cb = .idle
      · cases hpd : sb.pending with
        | nil => simp [Sub.quiet, hcb, hpd] at hp
        | cons m rest => exact ⟨.cbStart j, rfl, by simp [step, hsb, hcb, hpd, hncl]⟩
      · exact handler_progress s hi hre hw j sb hsb hcb hncl
  | barrierDone =>
    have := hi.st1 (by rw [hsv]; simp [rank]) (by rw [hsv]; simp [rank])
    exact ⟨.sendResult, rfl, by simp [step, hsv, this]⟩
  | resultSent =>
    have hncl : s.closed = false := by simpa [hsv, rank] using hi.clo
    cases hall : s.subs.all (fun sb => sb.cb == .idle) with
    | true => exact ⟨.closeWorkC, rfl, by simp [step, hsv, hall]⟩
    | false =>
      obtain ⟨j, sb, hsb, hp⟩ := not_all_get hall
      exact handler_progress s hi hre hw j sb hsb (by simpa using hp) hncl
  | closedQ =>
    have hcl : s.closed = true := by simpa [hsv, rank] using hi.clo
    cases hall : allExited s.workers with
    | true => exact ⟨.serveReturn, rfl, by simp [step, hsv, hall]⟩
    | false =>
      obtain ⟨i, u, hu, hp⟩ := not_all_get (P := (· == Wk.exited)) hall
      have hne : u ≠ .exited := by intro he; subst he; simp at hp
      by_cases hidle : u = .idle
      · subst hidle
        cases hq : s.workC with
        | nil => exact ⟨.workerExit i, rfl, by simp [step, hu, hcl, hq]⟩
        | cons x rest => exact ⟨.workerTake i, rfl, by simp [step, hu, hq]⟩
      · obtain ⟨a, _, ha, hen⟩ := worker_progress s hi hre i u hu hidle hne
        exact ⟨a, ha, hen⟩
  | returned =>
    have hg := (hi.st2 (by rw [hsv]; decide)).resolve_right fun h => hnot ⟨hsv, h⟩
    exact ⟨.stopReturn, rfl, by simp [step, hg]⟩

/-- A worker weighs the steps it has left to `exited`. Taking a request lifts it from 1 to 7, so a queued request
weighs 7 (`mu`) and the take still lowers the sum by one. -/
def wkW : Wk → Nat
  | .idle => 1 | .busy _ => 7 | .locking _ => 6 | .writing _ => 5 | .overflow _ => 4
  | .written _ => 3 | .publishing _ => 2 | .exited => 0
/-- A handler at its send weighs 9: more than the queued request plus the `sent` handler it becomes (7 + 1), and
with an idle worker (1) more than the `sent` handler and busy worker of a hand-off (1 + 7). -/
def cbW : Cb → Nat | .idle => 0 | .sending _ => 9 | .sent _ => 1
/-- Each station of a request on its way to a handler weighs one more than the next: in flight 11, pending 10,
at the send 9. -/
def subW (sb : Sub) : Nat := 11 * sb.inflight.length + 10 * sb.pending.length + cbW sb.cb
def wsW (ws : List Wk) : Nat := sumW wkW ws
def stopW : StopPc → Nat
  | .notCalled => 4 | .atQuit => 3 | .waitResult => 2 | .gotResult => 1 | .returned => 0

/-- The measure: every request still on its way weighs more the further it is from its reply,
every goroutine weighs the number of steps it has left; the one possible fault weighs 1. -/
def mu (s : Sys) : Nat :=
  sumW subW s.subs + 7 * s.workC.length + wsW s.workers
    + (7 - rank s.serve) + stopW s.stop + (if s.faulty then 0 else 1)

theorem mu_sub_lt {s : Sys} {j : Nat} {sb sb' : Sub} (hsb : s.subs[j]? = some sb) {wc ar hd dr : List Msg} {p : Bool}
    (h : subW sb' + 7 * wc.length < subW sb + 7 * s.workC.length) :
    mu { s with subs := s.subs.set j sb', workC := wc, arrived := ar, handed := hd, dropped := dr, panicked := p } < mu s := by
  have := sumW_set subW s.subs j sb sb' hsb
  simp only [mu]; omega

theorem mu_wk_lt {s : Sys} {i : Nat} {u v : Wk} (hw : s.workers[i]? = some u) {wc pr rp : List Msg} {m : Option Nat}
    (h : wkW v + 7 * wc.length < wkW u + 7 * s.workC.length) :
    mu { s with workC := wc, workers := s.workers.set i v, wmu := m, processed := pr, replied := rp } < mu s := by
  have := sumW_set wkW s.workers i u v hw
  simp only [mu, wsW]; omega

theorem mu_ctl_lt {s : Sys} {pc : ServePc} {st : StopPc} {a b c : Bool}
    (h : 7 - rank pc + stopW st < 7 - rank s.serve + stopW s.stop) :
    mu { s with serve := pc, stop := st, active := a, barrier := b, closed := c } < mu s := by
  simp only [mu]; omega

theorem mu_decreases {s s' : Sys} {a : Action} (hs : Step s a s') (ha : ∀ j m, a ≠ .arrive j m) : mu s' < mu s := by
  cases hs with
  | arrive => exact absurd rfl (ha _ _)
  | fault h => simp [mu, h]
  | deliver hsb hm => exact mu_sub_lt hsb (by simp [subW, hm]; omega)
  | cbStartStopped hsb hcb hm => exact mu_sub_lt hsb (by simp [subW, hm])
  | cbStart hsb hcb hm => exact mu_sub_lt hsb (by simp [subW, hm, hcb, cbW]; omega)
  | handlerEnqueueClosed hsb hcb | callbackDone hsb hcb => exact mu_sub_lt hsb (by simp [subW, hcb, cbW])
  | handlerEnqueue hsb hcb => exact mu_sub_lt hsb (by simp [subW, hcb, cbW]; omega)
  | workerTake hw hq => exact mu_wk_lt hw (by simp [hq, wkW]; omega)
  | @workerHandoff i j sb m hw hsb hcb _ hq =>
    exact Nat.lt_trans
      (mu_wk_lt (s := { s with subs := s.subs.set j { sb with cb := .sent m }, workC := [m] }) hw (by simp [wkW, hq]))
      (mu_sub_lt hsb (by simp [subW, hcb, cbW, hq]))
  | workerHandlerDone hw | workerLock hw | workerWriteOk hw | workerOverflow hw | workerErrReply hw | workerUnlock hw
  | workerReply hw | workerExit hw => exact mu_wk_lt hw (by simp [wkW])
  | stopCall h | stopReturn h => exact mu_ctl_lt (by simp [h, stopW])
  | serveGotQuit h1 h2 | sendResult h1 h2 => exact mu_ctl_lt (by simp [h1, h2, stopW, rank])
  | drainStart h | drainStartIgnored _ h | flushBarrier h | barrierFires h | closeWorkC h | serveReturn h =>
    exact mu_ctl_lt (by simp [h, rank])
  | drainFail _ h => exact mu_ctl_lt (by rcases h with h | h | h <;> simp [h, rank])

/-- `Stop` has its result only after the drain. -/
theorem SInv.stop_has_result {s : Sys} (hi : SInv s) (hst : s.stop = .gotResult ∨ s.stop = .returned) : 4 < rank s.serve := by
  by_cases h0 : rank s.serve = 0
  · rcases hi.st0 h0 with h | h <;> rcases hst with h' | h' <;> rw [h] at h' <;> cases h'
  · by_cases h5 : rank s.serve < 5
    · have := hi.st1 (by omega) h5; rcases hst with h' | h' <;> rw [this] at h' <;> cases h'
    · omega

/-- Once the drain has begun undisturbed the broker no longer has the subscriptions. -/
theorem SInv.inactive {s : Sys} (hi : SInv s) (hf : s.faulty = false) (h : 1 < rank s.serve) : s.active = false := by
  cases hact : s.active with
  | false => rfl
  | true => have := (hi.act hf).mp hact; omega

/-- After an undisturbed drain the subscriptions hold nothing. -/
theorem SInv.subs_empty {s : Sys} (hi : SInv s) (hf : s.faulty = false) (h : 3 < rank s.serve) :
    ∀ sb ∈ s.subs, sb.inflight = [] ∧ sb.pending = [] ∧ sb.cb = .idle :=
  fun sb hsb => ⟨hi.infl hf (by omega) sb hsb, hi.pend hf h sb hsb⟩

theorem SInv.subAll_empty {s : Sys} (hi : SInv s) (hf : s.faulty = false) (h : 3 < rank s.serve) : flat subAll s.subs = [] :=
  flat_eq_nil fun sb hsb => by obtain ⟨a, b, c⟩ := hi.subs_empty hf h sb hsb; rw [subAll, a, b, c]; rfl

end FV.NS
