/-
The reply step of FV.Model.Receivers5 (C05 (f)). Every write leaves the buffer within the limit, whether its result is
checked or ignored, so whatever the step ends with fits (`replyStep_len_le`).
-/
import FV.Model.Receivers5

namespace FV.Recv5

theorem write_le {limit len w l : Nat} (hl : limit > 0) (h : write limit len w = some l) : l ≤ limit := by
  unfold write at h
  split at h
  · cases h
  · cases h; omega

theorem group_le (limit : Nat) (hl : 4 ≤ limit) : ∀ (ws : List Nat) (len : Nat), len ≤ limit →
    group limit len ws ≤ limit := by
  intro ws
  induction ws with
  | nil => intro len h; exact h
  | cons w t ih =>
    intro len h
    simp only [group]
    cases hw : write limit len w with
    | some l => exact ih l (write_le (by omega) hw)
    | none => exact hl

theorem unchecked_le (limit : Nat) (hl : 4 ≤ limit) : ∀ (gs : List (List Nat)) (len : Nat), len ≤ limit →
    unchecked limit len gs ≤ limit := by
  intro gs
  induction gs with
  | nil => intro len h; exact h
  | cons g t ih =>
    intro len h
    simp only [unchecked]
    exact ih _ (group_le limit hl g len h)

theorem checked_le (limit : Nat) (hl : 0 < limit) : ∀ (ws : List Nat) (len n : Nat), len ≤ limit →
    checked limit len ws = some n → n ≤ limit := by
  intro ws
  induction ws with
  | nil => intro len n h hc; simp only [checked] at hc; cases hc; exact h
  | cons w t ih =>
    intro len n h hc
    simp only [checked] at hc
    cases hw : write limit len w with
    | some l => rw [hw] at hc; exact ih l n (write_le hl hw) hc
    | none => rw [hw] at hc; cases hc

theorem write_overflow {limit len w : Nat} (hl : limit > 0) (ho : w + len > limit) : write limit len w = none :=
  if_pos ⟨hl, ho⟩

/-- A header block that alone passes the limit leaves nothing behind: the attempt goes on without it. -/
theorem unchecked_head_overflow (limit h : Nat) (rest : List (List Nat)) (hl : limit > 0) (ho : h + 4 > limit) :
    unchecked limit 4 ([h] :: rest) = unchecked limit 4 rest := by
  simp only [unchecked, group, write_overflow hl ho]

theorem checked_head_overflow (limit h : Nat) (rest : List Nat) (hl : limit > 0) (ho : h + 4 > limit) :
    checked limit 4 (h :: rest) = none := by
  simp only [checked, write_overflow hl ho]

theorem sendErrorRec_diverges (limit : Nat) (exc : List Nat) (h : checked limit 4 exc = none) :
    ∀ fuel, sendErrorRec limit exc fuel = none := by
  intro fuel
  induction fuel with
  | zero => rfl
  | succ k ih => simp only [sendErrorRec, h]; exact ih

theorem replyStep_len_le (limit : Nat) (hl : 4 ≤ limit) (sc : Scenario) (primary fallback : List (List Nat)) :
    (replyStep limit sc primary fallback).len ≤ limit := by
  unfold replyStep
  cases sc <;> dsimp only
  · split  -- reply: the checked attempt, or the unchecked fallback
    · exact checked_le limit (by omega) _ 4 _ hl ‹_›
    · exact unchecked_le limit hl fallback 4 hl
  · exact unchecked_le limit hl primary 4 hl  -- error: one unchecked attempt
  · split  -- unknown: the checked attempt, or only the placeholder
    · exact checked_le limit (by omega) _ 4 _ hl ‹_›
    · exact hl

end FV.Recv5
