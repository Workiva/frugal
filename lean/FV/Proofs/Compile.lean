/-
Lemmas about the compile model alone (C11): the `CRes` monad and its loops, outcomes that are
never a panic, totality of the Go casing helpers and of `CleanGenParam`, the command-line loop.
-/
import FV.Model.Compile
namespace FV.Compile

@[simp] theorem CRes.bind_ok (a : α) (f : α → CRes β) : (CRes.ok a >>= f) = f a := rfl
@[simp] theorem CRes.bind_err (e : VErr) (f : α → CRes β) : (CRes.err e >>= f) = CRes.err e := rfl
@[simp] theorem CRes.bind_panic (p : CPanic) (f : α → CRes β) : (CRes.panic p >>= f) = CRes.panic p := rfl
theorem CRes.pure_eq (a : α) : (pure a : CRes α) = CRes.ok a := rfl

theorem CRes.bind_unit_ok_iff (x : CRes Unit) (f : Unit → CRes Unit) :
    (x >>= f) = .ok () ↔ x = .ok () ∧ f () = .ok () := by
  cases x <;> simp

theorem firstErr_cons (f : α → CRes Unit) (a : α) (as : List α) : firstErr f (a :: as) = f a >>= fun _ => firstErr f as := by
  rw [firstErr]; cases f a <;> rfl

theorem firstErr_ok_iff {f : α → CRes Unit} {l : List α} : firstErr f l = .ok () ↔ ∀ a ∈ l, f a = .ok () := by
  induction l with
  | nil => exact ⟨fun _ _ h => (nomatch h), fun _ => rfl⟩
  | cons x xs ih => rw [List.forall_mem_cons, ← ih, firstErr_cons, CRes.bind_unit_ok_iff]

theorem guardV_ok_iff {b : Bool} {e : VErr} : guardV b e = .ok () ↔ b = true := by
  cases b <;> simp [guardV]

def NoPanic (r : CRes α) : Prop := ∀ p, r ≠ .panic p

theorem NoPanic.ok (a : α) : NoPanic (CRes.ok a) := fun _ => nofun
theorem NoPanic.err (e : VErr) : NoPanic (CRes.err e : CRes α) := fun _ => nofun
theorem NoPanic.guardV (b : Bool) (e : VErr) : NoPanic (guardV b e) := by
  cases b <;> exact fun _ => nofun
theorem NoPanic.bind {x : CRes α} {f : α → CRes β} (hx : NoPanic x) (hf : ∀ a, NoPanic (f a)) : NoPanic (x >>= f) := by
  cases x with
  | ok a => exact hf a
  | err e => exact NoPanic.err e
  | panic p => exact absurd rfl (hx p)
theorem NoPanic.firstErr {f : α → CRes Unit} {l : List α} (h : ∀ a ∈ l, NoPanic (f a)) : NoPanic (firstErr f l) := by
  induction l with
  | nil => exact NoPanic.ok ()
  | cons x xs ih =>
    rw [firstErr_cons]
    exact NoPanic.bind (h x List.mem_cons_self) fun _ => ih fun a ha => h a (List.mem_cons_of_mem _ ha)

theorem contains_false_of_not_mem [BEq α] [LawfulBEq α] {l : List α} {a : α} (h : a ∉ l) : l.contains a = false :=
  Bool.eq_false_iff.mpr fun hc => h (List.contains_iff_mem.mp hc)

theorem goIndex_ok_of_lt (l : List α) (i : Nat) (h : i < l.length) : ∃ a, goIndex l (i : Int) = .ok a := by
  refine ⟨l[i], ?_⟩
  unfold goIndex
  simp [h]

theorem camelWord_isOk (w : Name) : ∃ r, camelWord w = .ok r := by
  unfold camelWord
  cases w with
  | nil => exact ⟨[], rfl⟩
  | cons c cs =>
    rw [if_neg (List.cons_ne_nil c cs)]
    split <;> exact ⟨_, rfl⟩

theorem camelWords_isOk (ws : List Name) : ∃ r, camelWords ws = .ok r := by
  induction ws with
  | nil => exact ⟨[], rfl⟩
  | cons w ws ih =>
    obtain ⟨a, ha⟩ := camelWord_isOk w
    obtain ⟨b, hb⟩ := ih
    exact ⟨a ++ b, by rw [camelWords, ha, hb]; rfl⟩

theorem snakeToCamel_isOk (s : Name) : ∃ r, snakeToCamel s = .ok r := by
  unfold snakeToCamel
  split
  · exact ⟨[], rfl⟩
  · exact camelWords_isOk _

theorem titleServiceName_isOk (n s : Name) : ∃ r, titleServiceName n s = .ok r := by
  unfold titleServiceName
  by_cases h1 : n = []
  · exact ⟨n, if_pos h1⟩
  by_cases h2 : n = upper n
  · exact ⟨n, by rw [if_neg h1, if_pos h2]⟩
  obtain ⟨r, hr⟩ := snakeToCamel_isOk (if s ≠ [] then s ++ '_' :: n else n)
  simp only [if_neg h1, if_neg h2, hr, CRes.bind_ok]
  split <;> exact ⟨_, rfl⟩

theorem title_isOk (n : Name) : ∃ r, title n = .ok r := titleServiceName_isOk n []

theorem splitOn_ne_nil (sep : Char) (s : Name) : splitOn sep s ≠ [] := by
  cases s with
  | nil => exact List.cons_ne_nil _ _
  | cons c cs =>
    unfold splitOn
    split
    · exact List.cons_ne_nil _ _
    · split <;> exact List.cons_ne_nil _ _

theorem splitOn_length_of_mem (sep : Char) (s : Name) (h : sep ∈ s) : 2 ≤ (splitOn sep s).length := by
  induction s with
  | nil => cases h
  | cons c cs ih =>
    unfold splitOn
    by_cases hc : c = sep
    · rw [if_pos hc, List.length_cons]
      exact Nat.succ_le_succ (List.length_pos_iff.mpr (splitOn_ne_nil sep cs))
    · have := ih ((List.mem_cons.mp h).resolve_left (Ne.symm hc))
      rw [if_neg hc]
      split
      · rename_i hs; rw [hs] at this; exact this
      · rename_i hs; exact absurd hs (splitOn_ne_nil sep cs)

theorem NoPanic.goIndex (l : List α) (i : Nat) (h : i < l.length) : NoPanic (goIndex l (i : Int)) := by
  obtain ⟨a, ha⟩ := goIndex_ok_of_lt l i h
  rw [ha]; exact NoPanic.ok a

theorem NoPanic.cleanOptions (lang : Name) : ∀ (os : List Name) (acc : List (Name × Name)), NoPanic (cleanOptions lang os acc)
  | [], _ => NoPanic.ok _
  | o :: os, acc => by
    unfold FV.Compile.cleanOptions
    have hpos := List.length_pos_iff.mpr (splitOn_ne_nil '=' o)
    refine NoPanic.bind (NoPanic.goIndex _ 0 hpos) fun k => ?_
    split
    · exact NoPanic.err _
    · split
      · exact NoPanic.cleanOptions lang os _
      · exact NoPanic.bind (NoPanic.goIndex _ 1 (Nat.lt_of_le_of_ne hpos (Ne.symm ‹_›))) fun v => NoPanic.cleanOptions lang os _

theorem cliLoop_append_valid (pre rest : List FileVerdict) (n : Nat) (h : ∀ f ∈ pre, f = .valid) :
    cliLoop (pre ++ rest) n = cliLoop rest (n + pre.length) := by
  induction pre generalizing n with
  | nil => rfl
  | cons f fs ih =>
    cases h f List.mem_cons_self
    rw [List.cons_append, cliLoop, ih (n + 1) fun g hg => h g (List.mem_cons_of_mem _ hg), List.length_cons,
      Nat.add_right_comm, Nat.add_assoc]

theorem cliLoop_exit_zero_iff (fs : List FileVerdict) (n : Nat) :
    (cliLoop fs n).exit = 0 ↔ ∀ f ∈ fs, f = .valid := by
  induction fs generalizing n with
  | nil => simp [cliLoop]
  | cons f fs ih => cases f <;> simp [cliLoop, ih]

theorem cliLoop_exit_zero_or_one (fs : List FileVerdict) (n : Nat) : (cliLoop fs n).exit = 0 ∨ (cliLoop fs n).exit = 1 := by
  induction fs generalizing n with
  | nil => exact Or.inl rfl
  | cons f fs ih =>
    cases f with
    | valid => exact ih _
    | invalid => exact Or.inr rfl

end FV.Compile
