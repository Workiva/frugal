/- Invariants of the correlation model (FV.Model.Registry). -/
import FV.Model.Registry

namespace FV.Reg

theorem get_upd (cs : List Caller) (i j : Nat) (f : Caller → Caller) :
    (updCaller cs i f)[j]? = if i = j then (cs[j]?).map f else cs[j]? := by
  unfold updCaller
  rw [List.getElem?_modify]
  by_cases h : i = j <;> simp [h]

theorem get_upd_other (cs : List Caller) (i j : Nat) (f : Caller → Caller) (hne : i ≠ j) :
    (updCaller cs i f)[j]? = cs[j]? := by
  rw [get_upd]; simp [hne]

theorem lookup_some {r : List (OpId × Nat)} {o : OpId} {ch : Nat} (h : lookup r o = some ch) :
    (o, ch) ∈ r := by
  unfold lookup at h
  split at h <;> cases h
  rename_i e he
  have h1 : e.1 = o := by simpa using List.find?_some he
  exact h1 ▸ List.mem_of_find?_eq_some he

theorem lookup_none {r : List (OpId × Nat)} {o : OpId} (h : lookup r o = none) :
    ∀ ch, (o, ch) ∉ r := by
  unfold lookup at h
  split at h
  · cases h
  · rename_i hf
    intro ch hm
    have := List.find?_eq_none.mp hf (o, ch) hm
    simp at this

/-- A caller is "active" while its registration may exist. -/
def Active (pc : Pc) : Prop := pc = .waiting ∨ ∃ o, pc = .leaving o

/-- Per-caller part of the correlation invariant: every frame the caller holds or has
taken carries the caller's own op id. -/
structure CallerOK (c : Caller) : Prop where
  buf : ∀ f ∈ c.buf, f.opid = c.opid
  got : ∀ f, (c.pc = .leaving (.ok f) ∨ c.pc = .done (.ok f)) → f.opid = c.opid

/-- The correlation invariant: frames only ever reach the caller whose op id they carry. -/
structure RInv (s : Sys) : Prop where
  callers : ∀ (i : Nat) (c : Caller), s.callers[i]? = some c → CallerOK c
  -- a registration points at a caller that has this op id and is in flight
  reg : ∀ (o : OpId) (i : Nat), (o, i) ∈ s.registry →
          ∃ c, s.callers[i]? = some c ∧ c.opid = o ∧ Active c.pc
  -- the channel the reader looked up belongs to a caller with the frame's op id
  rdr : ∀ (ch : Nat) (f : Frame), s.reader = .lookedUp ch f → ∃ c, s.callers[ch]? = some c ∧ c.opid = f.opid

theorem rinv_init (cap : Nat) (b : Bool) (os : List OpId) : RInv (init cap b os) := by
  constructor
  · intro i c h
    simp [init] at h
    obtain ⟨o, _, rfl⟩ := h
    constructor <;> simp
  · intro o i h; simp [init] at h
  · intro ch f h; simp [init] at h

@[simp] theorem setPc_opid (c : Caller) (p : Pc) : (c.setPc p).opid = c.opid := rfl
@[simp] theorem setPc_buf (c : Caller) (p : Pc) : (c.setPc p).buf = c.buf := rfl
@[simp] theorem setPc_pc (c : Caller) (p : Pc) : (c.setPc p).pc = p := rfl
@[simp] theorem push_opid (c : Caller) (f : Frame) : (c.push f).opid = c.opid := rfl
@[simp] theorem push_pc (c : Caller) (f : Frame) : (c.push f).pc = c.pc := rfl
@[simp] theorem push_buf (c : Caller) (f : Frame) : (c.push f).buf = c.buf ++ [f] := rfl
@[simp] theorem take_opid (c : Caller) (p : Pc) (r : List Frame) : (c.take p r).opid = c.opid := rfl
@[simp] theorem take_pc (c : Caller) (p : Pc) (r : List Frame) : (c.take p r).pc = p := rfl
@[simp] theorem take_buf (c : Caller) (p : Pc) (r : List Frame) : (c.take p r).buf = r := rfl

/-- The enabled transitions of `step`, one constructor per branch that returns `some`. -/
inductive Step (s : Sys) : Action → Sys → Prop
  | regErr {i c} (hc : s.callers[i]? = some c) (hpc : c.pc = .new) (hl : (lookup s.registry c.opid).isSome) :
      Step s (.register i) { s with callers := updCaller s.callers i (·.setPc (.done .regErr)) }
  | register {i c} (hc : s.callers[i]? = some c) (hpc : c.pc = .new) (hl : ¬ (lookup s.registry c.opid).isSome) :
      Step s (.register i) { s with callers := updCaller s.callers i (·.setPc .waiting),
                                    registry := s.registry ++ [(c.opid, i)] }
  | recv {i c f rest} (hc : s.callers[i]? = some c) (hpc : c.pc = .waiting) (hb : c.buf = f :: rest) :
      Step s (.recv i) { s with callers := updCaller s.callers i (·.take (.leaving (.ok f)) rest) }
  | timeout {i c} (hc : s.callers[i]? = some c) (hpc : c.pc = .waiting) :
      Step s (.timeout i) { s with callers := updCaller s.callers i (·.setPc (.leaving .timedOut)) }
  | sendError {i c} (hc : s.callers[i]? = some c) (hpc : c.pc = .waiting) :
      Step s (.sendError i) { s with callers := updCaller s.callers i (·.setPc (.leaving .sendErr)) }
  | unregister {i c o} (hc : s.callers[i]? = some c) (hpc : c.pc = .leaving o) :
      Step s (.unregister i) { s with callers := updCaller s.callers i (·.setPc (.done o)),
                                      registry := s.registry.filter (fun e => e.1 ≠ c.opid) }
  | lookupHit {f ch} (hr : s.reader = .idle) (hl : lookup s.registry f.opid = some ch) :
      Step s (.readerLookup f) { s with reader := .lookedUp ch f }
  | lookupMiss {f} (hr : s.reader = .idle) (hl : lookup s.registry f.opid = none) : Step s (.readerLookup f) s
  | send {ch f c} (hr : s.reader = .lookedUp ch f) (hc : s.callers[ch]? = some c) (hroom : c.buf.length < s.cap) :
      Step s .readerSend { s with callers := updCaller s.callers ch (·.push f), reader := .idle }
  | drop {ch f c} (hr : s.reader = .lookedUp ch f) (hc : s.callers[ch]? = some c) (hfull : ¬ c.buf.length < s.cap)
      (hnb : s.sendBlocking = false) : Step s .readerSend { s with reader := .idle }

theorem step_sound {s s' : Sys} {a : Action} (hs : step s a = some s') : Step s a s' := by
  revert hs; fun_cases step s a <;> intro hs <;> cases hs
  -- `simp_all` for the guards that `step` writes negated (`c.pc ≠ .new`, `sendBlocking`)
  all_goals (constructor <;> first | assumption | simp_all)

/-- Changing caller `i` by an op-id preserving `g` and shrinking the registry to `reg'` (reader untouched)
preserves the invariant when the new caller is OK and, if still registered, stays active. -/
theorem rinv_upd {s : Sys} {i : Nat} {c : Caller} (g : Caller → Caller) (reg' : List (OpId × Nat)) (hi : RInv s)
    (hc : s.callers[i]? = some c) (hop : ∀ c, (g c).opid = c.opid) (hok : CallerOK (g c))
    (hsub : ∀ e ∈ reg', e ∈ s.registry) (hact : (c.opid, i) ∈ reg' → Active c.pc → Active (g c).pc) :
    RInv { s with callers := updCaller s.callers i g, registry := reg' } := by
  refine ⟨fun j c' hj => ?_, fun o j hm => ?_, fun ch f hr => ?_⟩
  · rw [get_upd] at hj
    split at hj
    · next e => subst e; rw [hc] at hj; cases hj; exact hok
    · exact hi.callers j c' hj
  · obtain ⟨cj, hcj, ho, ha⟩ := hi.reg o j (hsub _ hm)
    rw [get_upd, hcj]
    split
    · next e => subst e; cases hc.symm.trans hcj; exact ⟨g c, rfl, (hop c).trans ho, hact (ho ▸ hm) ha⟩
    · exact ⟨cj, rfl, ho, ha⟩
  · obtain ⟨cj, hcj, ho⟩ := hi.rdr ch f hr
    rw [get_upd, hcj]
    split
    · exact ⟨g cj, rfl, (hop cj).trans ho⟩
    · exact ⟨cj, rfl, ho⟩

theorem not_active_new : ¬ Active .new := by rintro (h | ⟨_, h⟩) <;> cases h
theorem not_active_done (o : Outcome) : ¬ Active (.done o) := by rintro (h | ⟨_, h⟩) <;> cases h

theorem rinv_step {s s' : Sys} {a : Action} (hi : RInv s) (hs : Step s a s') : RInv s' := by
  have keep : ∀ e ∈ s.registry, e ∈ s.registry := fun _ h => h
  cases hs with
  | regErr hc hpc _ =>
    exact rinv_upd _ _ hi hc (fun _ => rfl) ⟨(hi.callers _ _ hc).buf, by simp⟩ keep
      (fun _ h => absurd (hpc ▸ h) not_active_new)
  | @register i c hc hpc _ =>
    have h1 := rinv_upd (·.setPc .waiting) _ hi hc (fun _ => rfl) ⟨(hi.callers _ _ hc).buf, by simp⟩ keep
      (fun _ _ => Or.inl rfl)
    refine ⟨h1.callers, ?_, h1.rdr⟩
    intro o j hm
    rcases List.mem_append.mp hm with hm | hm
    · exact h1.reg o j hm
    · cases List.mem_singleton.mp hm
      exact ⟨c.setPc .waiting, by simp only [get_upd, if_true, hc, Option.map_some], rfl, Or.inl rfl⟩
  | @recv i c f rest hc _ hb =>
    have hck := hi.callers i c hc
    exact rinv_upd _ _ hi hc (fun _ => rfl)
      ⟨fun g hg => hck.buf g (hb ▸ List.mem_cons_of_mem _ hg),
       fun g hg => by simp at hg; subst hg; exact hck.buf _ (hb ▸ List.mem_cons_self)⟩
      keep (fun _ _ => Or.inr ⟨_, rfl⟩)
  | timeout hc _ | sendError hc _ =>
    exact rinv_upd _ _ hi hc (fun _ => rfl) ⟨(hi.callers _ _ hc).buf, by simp⟩ keep (fun _ _ => Or.inr ⟨_, rfl⟩)
  | @unregister i c o hc hpc =>
    have hck := hi.callers i c hc
    exact rinv_upd _ _ hi hc (fun _ => rfl)
      ⟨hck.buf, fun f hf => hck.got f (Or.inl (by simp at hf; rw [hpc, hf]))⟩
      (fun _ h => (List.mem_filter.mp h).1) (fun h => by simp at h)
  | @lookupHit f ch _ hl =>
    refine ⟨hi.callers, hi.reg, ?_⟩
    intro ch' f' hr
    cases hr
    obtain ⟨c, h1, h2, _⟩ := hi.reg f.opid ch (lookup_some hl)
    exact ⟨c, h1, h2⟩
  | lookupMiss _ _ => exact hi
  | @send ch f c hr hc _ =>
    obtain ⟨c1, h1, h2⟩ := hi.rdr ch f hr
    rw [hc] at h1; cases h1
    have hck := hi.callers ch c hc
    have := rinv_upd (·.push f) _ hi hc (fun _ => rfl)
      ⟨fun g hg => by simp at hg; rcases hg with hg | rfl; exact hck.buf g hg; exact h2.symm, hck.got⟩ keep (fun _ h => h)
    exact ⟨this.callers, this.reg, by intro _ _ hr; cases hr⟩
  | drop _ _ _ _ => exact ⟨hi.callers, hi.reg, by intro _ _ hr; cases hr⟩

theorem run_induction {P : Sys → Prop} {s s' : Sys} {as : List Action} (h : run s as = some s') (h0 : P s)
    (hstep : ∀ t a t', P t → Step t a t' → P t') : P s' := by
  induction as generalizing s with
  | nil => cases h; exact h0
  | cons a as ih =>
    simp only [run] at h
    split at h
    · rename_i s1 h1; exact ih h (hstep _ _ _ h0 (step_sound h1))
    · cases h

theorem modify_opid (cs : List Caller) (i : Nat) (g : Caller → Caller) (hg : ∀ c, (g c).opid = c.opid) :
    (updCaller cs i g).map (·.opid) = cs.map (·.opid) := by
  unfold updCaller
  induction cs generalizing i with
  | nil => simp
  | cons c t ih =>
    cases i with
    | zero => simp [List.modify_cons, hg]
    | succ n => simp [ih n]

theorem step_opids {s s' : Sys} {a : Action} (hs : Step s a s') :
    s'.callers.map (·.opid) = s.callers.map (·.opid) ∧ s'.cap = s.cap ∧ s'.sendBlocking = s.sendBlocking := by
  cases hs with
  | lookupHit | lookupMiss | drop => exact ⟨rfl, rfl, rfl⟩
  | _ => exact ⟨modify_opid _ _ _ fun _ => rfl, rfl, rfl⟩

theorem opid_inj (cs : List Caller) (hnd : (cs.map (·.opid)).Nodup) (i j : Nat) (ci cj : Caller)
    (hi : cs[i]? = some ci) (hj : cs[j]? = some cj) (e : ci.opid = cj.opid) : i = j := by
  have h1 : (cs.map (·.opid))[i]? = some ci.opid := by simp [hi]
  have h2 : (cs.map (·.opid))[j]? = some ci.opid := by simp [hj, e]
  obtain ⟨hil, e1⟩ := List.getElem?_eq_some_iff.mp h1
  obtain ⟨hjl, e2⟩ := List.getElem?_eq_some_iff.mp h2
  exact (List.getElem_inj hnd).mp (by rw [e1, e2])

/-- The converse of `RInv.reg`: every active caller is registered under its own op id (the two together:
`lookup_eq_some_iff`). An invariant only of systems with pairwise distinct op ids, since `Unregister` deletes
by op id. -/
def JInv (s : Sys) : Prop :=
  ∀ (i : Nat) (c : Caller), s.callers[i]? = some c → Active c.pc → (c.opid, i) ∈ s.registry

theorem jinv_init (cap : Nat) (b : Bool) (os : List OpId) : JInv (init cap b os) := by
  intro i c h ha
  simp [init] at h
  obtain ⟨o, _, rfl⟩ := h
  rcases ha with ha | ⟨_, ha⟩ <;> cases ha

/-- The counterpart of `rinv_upd` for `JInv`: caller `i` updated by an op-id preserving `g`, the registry replaced. -/
theorem jinv_upd (s : Sys) (i : Nat) (c : Caller) (g : Caller → Caller) (reg' : List (OpId × Nat))
    (hj : JInv s) (hc : s.callers[i]? = some c) (hop : ∀ c, (g c).opid = c.opid)
    (hself : Active (g c).pc → (c.opid, i) ∈ reg')
    (hother : ∀ (j : Nat) (cj : Caller), j ≠ i → s.callers[j]? = some cj → (cj.opid, j) ∈ s.registry → (cj.opid, j) ∈ reg') :
    JInv { s with callers := updCaller s.callers i g, registry := reg' } := by
  intro j c' h ha
  by_cases e : i = j
  · subst e
    rw [get_upd, if_pos rfl, hc] at h; cases h
    rw [hop]; exact hself ha
  · rw [get_upd_other _ i j g e] at h
    exact hother j c' (Ne.symm e) h (hj j c' h ha)

theorem jinv_step {s s' : Sys} {a : Action} (hnd : (s.callers.map (·.opid)).Nodup)
    (hj : JInv s) (hs : Step s a s') : JInv s' := by
  cases hs with
  | regErr hc _ _ =>
    exact jinv_upd s _ _ _ s.registry hj hc (fun _ => rfl) (fun ha => absurd ha (not_active_done _)) (fun _ _ _ _ h => h)
  | register hc _ _ =>
    exact jinv_upd s _ _ _ _ hj hc (fun _ => rfl) (by intro _; simp) (fun _ _ _ _ h => by simp [h])
  | recv hc hw _ | timeout hc hw | sendError hc hw =>
    exact jinv_upd s _ _ _ s.registry hj hc (fun _ => rfl) (fun _ => hj _ _ hc (Or.inl hw)) (fun _ _ _ _ h => h)
  | @unregister i c o hc _ =>
    refine jinv_upd s _ _ _ _ hj hc (fun _ => rfl) (fun ha => absurd ha (not_active_done _)) ?_
    intro j cj hne hcj hm
    simp only [List.mem_filter, decide_eq_true_eq]
    exact ⟨hm, fun e => hne (opid_inj s.callers hnd j i cj c hcj hc e)⟩
  | send _ hc _ =>
    exact jinv_upd s _ _ _ s.registry hj hc (fun _ => rfl) (fun ha => hj _ _ hc ha) (fun _ _ _ _ h => h)
  | lookupHit _ _ | lookupMiss _ _ | drop _ _ _ _ => exact hj

def Reachable (cap : Nat) (b : Bool) (os : List OpId) (s : Sys) : Prop :=
  ∃ as, run (init cap b os) as = some s

theorem reachable_rinv {cap b os s} (h : Reachable cap b os s) : RInv s := by
  obtain ⟨as, h⟩ := h
  exact run_induction h (rinv_init cap b os) fun _ _ _ => rinv_step

theorem reachable_params {cap b os s} (h : Reachable cap b os s) :
    s.callers.map (·.opid) = os ∧ s.cap = cap ∧ s.sendBlocking = b := by
  obtain ⟨as, h⟩ := h
  refine run_induction (P := fun t => t.callers.map (·.opid) = os ∧ t.cap = cap ∧ t.sendBlocking = b) h
    (by simp [init, Function.comp_def]) fun t a t' hp ht => ?_
  obtain ⟨e1, e2, e3⟩ := step_opids ht
  exact ⟨e1.trans hp.1, e2.trans hp.2.1, e3.trans hp.2.2⟩

theorem reachable_nodup {cap b os s} (hnd : os.Nodup) (h : Reachable cap b os s) :
    (s.callers.map (·.opid)).Nodup := by
  rw [(reachable_params h).1]; exact hnd

theorem reachable_jinv {cap b os s} (hnd : os.Nodup) (h : Reachable cap b os s) : JInv s := by
  obtain ⟨as, h⟩ := h
  exact (run_induction (P := fun t => (t.callers.map (·.opid)).Nodup ∧ JInv t) h
    ⟨by simpa [init, Function.comp_def] using hnd, jinv_init cap b os⟩
    fun t a t' hp ht => ⟨by rw [(step_opids ht).1]; exact hp.1, jinv_step hp.1 hp.2 ht⟩).2

/-- With distinct op ids the registry is exactly the set of active callers: looking up an op id finds the
caller that has it and is in flight, and nobody else. -/
theorem lookup_eq_some_iff {cap b os s} (hnd : os.Nodup) (hr : Reachable cap b os s) (o : OpId) (i : Nat) :
    lookup s.registry o = some i ↔ ∃ c, s.callers[i]? = some c ∧ c.opid = o ∧ Active c.pc := by
  constructor
  · exact fun hl => (reachable_rinv hr).reg o i (lookup_some hl)
  · rintro ⟨c, hc, rfl, ha⟩
    have hm := reachable_jinv hnd hr i c hc ha
    cases hl : lookup s.registry c.opid with
    | none => exact absurd hm (lookup_none hl i)
    | some j =>
      obtain ⟨cj, hcj, ho, _⟩ := (reachable_rinv hr).reg c.opid j (lookup_some hl)
      rw [opid_inj s.callers (reachable_nodup hnd hr) j i cj c hcj hc ho]

/-- Once a call has returned its op id is registered for nobody. -/
theorem done_not_registered {cap b os s} (hnd : os.Nodup) (hr : Reachable cap b os s) {i : Nat} {c : Caller}
    {o : Outcome} (hc : s.callers[i]? = some c) (hd : c.pc = .done o) (j : Nat) : (c.opid, j) ∉ s.registry := by
  intro hm
  obtain ⟨cj, hcj, ho, ha⟩ := (reachable_rinv hr).reg c.opid j hm
  cases opid_inj s.callers (reachable_nodup hnd hr) j i cj c hcj hc ho
  rw [hc] at hcj; cases hcj
  exact not_active_done o (hd ▸ ha)

end FV.Reg
