/-
Lemmas for C18 (`FV/Props/C18.lean`): Go map idioms (`findLast?`, `dedupLast`), typedef
expansion (`resolve?` is monotone in its fuel, `underlying` reaches a head-normal type),
`checkType` logs a mismatch iff the expansions differ, every checker of the audit model
against the corresponding part of the documented catalogue, one-hole type contexts, and the
relation of compatible edits.
-/
import FV.Model.Audit
import FV.Spec.Breaking
import FV.Proofs.ListAux
namespace FV.Idl

/-- The conjuncts of `WF` that the proofs about the audit use. None for the distinct names of
typedefs, namespaces and constants (no error-logging checker is keyed by them), nor for the naming
clause and the three include clauses (they say where `resolve?` is what the IDL means, cf.
`resolveAcross?`; no proof needs them). -/
structure WF.Parts (p : Prog) : Prop where
  enums : (p.enums.map (·.name)).Nodup
  enumValues : ∀ e ∈ p.enums, (e.values.map (·.num)).Nodup
  structs : (p.structs.map fun s => (s.kind, s.name)).Nodup
  fields : ∀ s ∈ p.structs, fieldsWF s.fields
  services : (p.services.map (·.name)).Nodup
  methods : ∀ s ∈ p.services, (s.methods.map (·.name)).Nodup
  methodFields : ∀ s ∈ p.services, ∀ m ∈ s.methods, fieldsWF m.args ∧ fieldsWF m.excs
  scopes : (p.scopes.map (·.name)).Nodup
  ops : ∀ s ∈ p.scopes, (s.ops.map (·.name)).Nodup
  resolves : ∀ t ∈ p.allTys, (resolve? p.env p.fuel t).isSome = true

theorem WF.parts {p : Prog} (h : WF p) : WF.Parts p :=
  have ⟨_typedefs, enums, enumValues, structs, fields, services, methods, scopes, ops, _namespaces, _consts,
    resolves, _named, _includes, _incTypedefs, _nameFree⟩ := h
  ⟨enums, enumValues, structs, fields, services, fun s hs => (methods s hs).1, fun s hs => (methods s hs).2,
    scopes, ops, resolves⟩

end FV.Idl

namespace FV.AuditProofs
open FV.Idl FV.Audit FV.Breaking

theorem findLast?_eq_find?_reverse (p : α → Bool) : ∀ l : List α, findLast? p l = l.reverse.find? p
  | [] => rfl
  | a :: l => by
    rw [findLast?, findLast?_eq_find?_reverse p l, List.reverse_cons, List.find?_append]
    cases l.reverse.find? p <;> cases h : p a <;> simp [h]

theorem dedupLast_of_nodup [DecidableEq κ] {key : α → κ} {l : List α} (h : (l.map key).Nodup) :
    dedupLast key l = l := by
  induction l with
  | nil => rfl
  | cons a l ih =>
    rw [List.map_cons, List.nodup_cons] at h
    have : l.any (fun b => key b = key a) = false := by
      rw [List.any_eq_false]
      intro b hb hk
      exact h.1 (List.mem_map.mpr ⟨b, hb, by simpa using hk⟩)
    simp [dedupLast, this, ih h.2]

/-- A checker keyed by `kn n == ko o`, with distinct keys among the new items, against a catalogue
statement: what a missing item means `M`, what a matched pair means `B`. -/
theorem any_forOld_iff [DecidableEq κ] {olds : List α} {news : List β} {ko : α → κ} {kn : β → κ}
    {both : α → β → List Finding} {missing : α → List Finding} {M : α → Prop} {B : α → β → Prop}
    (hn : (news.map kn).Nodup)
    (hmiss : ∀ o ∈ olds, ((missing o).any Finding.isError = true ↔ M o))
    (hboth : ∀ o ∈ olds, ∀ n ∈ news, ((both o n).any Finding.isError = true ↔ B o n)) :
    (forOld olds news (fun o n => kn n == ko o) both missing).any Finding.isError = true ↔
      ∃ o ∈ olds, ((∀ n ∈ news, kn n ≠ ko o) ∧ M o) ∨ ∃ n ∈ news, kn n = ko o ∧ B o n := by
  unfold forOld
  rw [List.any_flatMap, List.any_eq_true]
  refine exists_congr fun o => and_congr_right fun ho => ?_
  rw [findLast?_eq_find?_reverse]
  cases hf : news.reverse.find? (fun n => kn n == ko o) with
  | none =>
    have hno : ∀ n ∈ news, kn n ≠ ko o := fun n h =>
      beq_eq_false_iff_ne.mp (Bool.eq_false_iff.mpr (List.find?_eq_none.mp hf n (List.mem_reverse.mpr h)))
    exact (hmiss o ho).trans ⟨fun m => .inl ⟨hno, m⟩, fun | .inl h => h.2 | .inr ⟨n, h, e, _⟩ => absurd e (hno n h)⟩
  | some n =>
    have hn' := List.mem_reverse.mp (List.mem_of_find?_eq_some hf)
    have he : kn n = ko o := beq_iff_eq.mp (List.find?_some (p := fun n => kn n == ko o) hf)
    refine (hboth o ho n hn').trans ⟨fun b => .inr ⟨n, hn', he, b⟩, fun h => ?_⟩
    rcases h with h | ⟨n', h, e, b⟩
    · exact absurd he (h.1 n hn')
    · rwa [← inj_of_nodup_map hn h hn' (e.trans he.symm)]

/-- The `missing` branch logs an error: the catalogue's "removed, or matched and broken" (where
this is applied, `B` is found by unification with the catalogue's text). -/
theorem any_forOld_key [DecidableEq κ] {olds : List α} {news : List β} {ko : α → κ} {kn : β → κ}
    {both : α → β → List Finding} {k : Kind} {B : α → β → Prop}
    (hn : (news.map kn).Nodup)
    (hboth : ∀ o ∈ olds, ∀ n ∈ news, ((both o n).any Finding.isError = true ↔ B o n)) :
    (forOld olds news (fun o n => kn n == ko o) both fun _ => [.error k]).any Finding.isError = true ↔
      ∃ o ∈ olds, (∀ n ∈ news, kn n ≠ ko o) ∨ ∃ n ∈ news, kn n = ko o ∧ B o n := by
  simpa only [and_true] using any_forOld_iff (M := fun _ => True) hn (fun _ _ => iff_true_intro rfl) hboth

theorem resolve?_succ {tds : TEnv} {f : Nat} {t r : Ty} (h : resolve? tds f t = some r) :
    resolve? tds (f + 1) t = some r := by
  fun_induction resolve? tds f t generalizing r with
  | case1 => cases h                                                  -- no fuel
  | case2 => exact h                                                  -- `base`
  | case3 f n body hl ih => rw [resolve?, hl]; exact ih h             -- `named`, a typedef
  | case4 f n hl => rw [resolve?, hl]; exact h                        -- `named`, no typedef
  | case5 f i n body hl ih => rw [resolve?, hl]; exact ih h           -- `qual`, a typedef of the include
  | case6 f i n hl => rw [resolve?, hl]; exact h                      -- `qual`, no typedef
  | case7 f t ih | case8 f t ih =>                                    -- `list`, `set`
    obtain ⟨x, hx, rfl⟩ := Option.map_eq_some_iff.mp h
    rw [resolve?, ih hx]; rfl
  | case9 f k v k' v' hv hk ihk ihv => rw [resolve?, ihk hk, ihv hv]; exact h   -- `map`, both sides expand
  | case10 => cases h                                                 -- `map`, a side does not expand

theorem resolve?_mono {tds : TEnv} {f g : Nat} {t r : Ty} (hfg : f ≤ g)
    (h : resolve? tds f t = some r) : resolve? tds g t = some r := by
  induction hfg with
  | refl => exact h
  | step _ ih => exact resolve?_succ ih

theorem resolve?_fuel_indep {tds : TEnv} {f g : Nat} {t r r' : Ty}
    (h : resolve? tds f t = some r) (h' : resolve? tds g t = some r') : r = r' :=
  Option.some.inj ((resolve?_mono (Nat.le_max_left f g) h).symm.trans (resolve?_mono (Nat.le_max_right f g) h'))

/-- Not a typedef name, neither of the file itself nor (for `inc.n`) of the included file. -/
abbrev HeadNormal (tds : TEnv) (h : Ty) : Prop :=
  (∀ n, h = .named n → tds.loc n = none) ∧ (∀ i n, h = .qual i n → tds.inInc i n = none)

/-- `UnderlyingType` reaches a type that is not a typedef name and expands to the same type. -/
theorem underlying_spec {tds : TEnv} {f : Nat} {t r : Ty} (h : resolve? tds f t = some r) :
    resolve? tds f (underlying tds f t) = some r ∧ HeadNormal tds (underlying tds f t) := by
  fun_induction underlying tds f t generalizing r with
  | case1 t => cases h                                                -- no fuel
  | case2 f n body hl ih | case4 f i n body hl ih =>                  -- `named` / `qual`, a typedef: one hop
    rw [resolve?, hl] at h; exact ⟨resolve?_succ (ih h).1, (ih h).2⟩
  | case3 f n hl => exact ⟨h, fun _ e => Ty.named.inj e ▸ hl, nofun⟩  -- `named`, no typedef
  | case5 f i n hl => exact ⟨h, nofun, fun _ _ e => by cases e; exact hl⟩   -- `qual`, no typedef
  | case6 f t h1 h2 => exact ⟨h, fun n e => absurd e (h1 n), fun i n e => absurd e (h2 i n)⟩   -- any other type

/-- Shape of the expansion `r` of a head-normal type. -/
def HeadShape (tds : TEnv) (f : Nat) (r : Ty) : Ty → Prop
  | .base n => .base n = r
  | .named n => .named n = r
  | .qual i n => .qual i n = r
  | .list e => ∃ e', resolve? tds f e = some e' ∧ .list e' = r
  | .set e => ∃ e', resolve? tds f e = some e' ∧ .set e' = r
  | .map k v => ∃ k' v', resolve? tds f k = some k' ∧ resolve? tds f v = some v' ∧ .map k' v' = r

theorem resolve?_head {tds : TEnv} {f : Nat} {h r : Ty}
    (hr : resolve? tds (f + 1) h = some r) (hn : HeadNormal tds h) :
    HeadShape tds f r h := by
  cases h with
  | base n | list e | set e => simpa [HeadShape, resolve?] using hr
  | named n => simpa [HeadShape, resolve?, hn.1 n rfl] using hr
  | qual i n => simpa [HeadShape, resolve?, hn.2 i n rfl] using hr
  | map k v =>
    rw [resolve?] at hr
    split at hr
    · exact ⟨_, _, ‹_›, ‹_›, Option.some.inj hr⟩
    · cases hr

theorem headShape_ctorIdx {tds : TEnv} {f : Nat} {r h : Ty} (hs : HeadShape tds f r h) : r.ctorIdx = h.ctorIdx := by
  cases h <;> unfold HeadShape at hs
  case list | set => obtain ⟨_, _, rfl⟩ := hs; rfl
  case map => obtain ⟨_, _, _, _, rfl⟩ := hs; rfl
  all_goals rw [← hs]

/-- `checkType` on two types that expand: it logs a mismatch iff the expansions differ. -/
theorem tyMismatches_pos {otds ntds : TEnv} : ∀ {f : Nat} {a b ra rb : Ty},
    resolve? otds f a = some ra → resolve? ntds f b = some rb →
      (0 < tyMismatches otds ntds f a b ↔ ra ≠ rb) := by
  intro f
  induction f with
  | zero => intro a b ra rb h; cases h
  | succ f ih =>
    intro a b ra rb ha hb
    have sa := underlying_spec ha
    have sb := underlying_spec hb
    have qa := resolve?_head sa.1 sa.2
    have qb := resolve?_head sb.1 sb.2
    rw [tyMismatches]
    generalize underlying otds (f + 1) a = x at qa
    generalize underlying ntds (f + 1) b = y at qb
    have hx := headShape_ctorIdx qa
    have hy := headShape_ctorIdx qb
    cases x <;> cases y
    case list.list | set.set =>
      obtain ⟨e1, h1, rfl⟩ := qa; obtain ⟨e2, h2, rfl⟩ := qb
      exact (ih h1 h2).trans (not_congr (by simp))
    case map.map =>
      obtain ⟨k1, v1, hk1, hv1, rfl⟩ := qa; obtain ⟨k2, v2, hk2, hv2, rfl⟩ := qb
      refine (Nat.add_pos_iff_pos_or_pos.trans (or_congr (ih hk1 hk2) (ih hv1 hv2))).trans ?_
      simp only [ne_eq, Ty.map.injEq, Classical.not_and_iff_not_or_not]
    case base.base n m | named.named n m =>
      cases qa; cases qb
      by_cases h : n = m <;> simp [h]
    case qual.qual i n j m =>
      cases qa; cases qb
      by_cases h1 : i = j <;> by_cases h2 : n = m <;> simp [h1, h2]
    -- different head constructors: one message, and the expansions differ
    all_goals exact iff_of_true Nat.one_pos fun e => nomatch (hx.symm.trans (congrArg Ty.ctorIdx e)).trans hy

/-- The written type expands within the program's fuel (part of `WF` for every type of `p`). -/
def Resolves (p : Prog) (t : Ty) : Prop := (resolve? p.env p.fuel t).isSome = true

theorem any_replicate_error {n : Nat} {k : Kind} :
    (List.replicate n (Finding.error k)).any Finding.isError = true ↔ 0 < n := by
  cases n <;> simp [List.replicate, Finding.isError]

theorem checkType_some {old new : Prog} {a b : Ty} (ha : Resolves old a) (hb : Resolves new b) :
    (checkType (Ctx.of old new) false (some a) (some b)).any Finding.isError = true ↔
      TypeChanged old new a b := by
  unfold Resolves at ha hb
  obtain ⟨ra, hra⟩ := Option.isSome_iff_exists.mp ha
  obtain ⟨rb, hrb⟩ := Option.isSome_iff_exists.mp hb
  have h1 := resolve?_mono (Nat.le_add_right old.fuel new.fuel) hra
  have h2 := resolve?_mono (Nat.le_add_left new.fuel old.fuel) hrb
  simp only [checkType, Ctx.of, tyMismatchesO, Bool.false_eq_true, if_false, any_replicate_error,
    tyMismatches_pos h1 h2, TypeChanged, hra, hrb, ne_eq, Option.some.injEq]

theorem checkType_opt {old new : Prog} {a b : Option Ty}
    (ha : ∀ t, a = some t → Resolves old t) (hb : ∀ t, b = some t → Resolves new t) :
    (checkType (Ctx.of old new) false a b).any Finding.isError = true ↔ RetChanged old new a b := by
  cases a <;> cases b
  · simp [checkType, tyMismatchesO, RetChanged]
  · simp [checkType, tyMismatchesO, RetChanged, Finding.isError]
  · simp [checkType, tyMismatchesO, RetChanged, Finding.isError]
  · simpa [RetChanged] using checkType_some (ha _ rfl) (hb _ rfl)

theorem any_if_error {c : Prop} [Decidable c] {k : Kind} :
    (if c then [Finding.error k] else []).any Finding.isError = true ↔ c := by
  split <;> simp_all [Finding.isError]

theorem any_if_warning {c : Prop} [Decidable c] {k : Kind} :
    (if c then [Finding.warning k] else []).any Finding.isError = false := by
  split <;> simp [Finding.isError]

theorem any_ite_nil {c : Prop} [Decidable c] {l : List α} {p : α → Bool} :
    (if c then [] else l).any p = true ↔ ¬ c ∧ l.any p = true := by
  split <;> simp [*]

theorem isReq_bne {f g : Field} : (isReq f != isReq g) = true ↔ ¬ (f.mod = .required ↔ g.mod = .required) := by
  rw [bne_iff_ne, ne_eq, Bool.eq_iff_iff, isReq, isReq, beq_iff_eq, beq_iff_eq]

theorem checkFields_iff {old new : Prog} {ofs nfs : List Field}
    (ho : fieldsWF ofs) (hn : fieldsWF nfs)
    (ro : ∀ f ∈ ofs, Resolves old f.ty) (rn : ∀ g ∈ nfs, Resolves new g.ty) :
    (checkFields (Ctx.of old new) ofs nfs).any Finding.isError = true ↔
      FieldsBreaking old new ofs nfs := by
  unfold fieldsWF at ho hn
  simp only [checkFields, dedupLast_of_nodup ho, dedupLast_of_nodup hn]
  rw [List.any_append, Bool.or_eq_true,
    any_forOld_iff (M := fun f => f.mod ≠ .optional)
      (B := fun f g => TypeChanged old new f.ty g.ty ∨ ¬ (f.mod = .required ↔ g.mod = .required)) hn
      (fun f _ => by rw [any_if_error, bne_iff_ne])
      (fun f hf g hg => by
        simp only [List.any_append, Bool.or_eq_true, checkType_some (ro f hf) (rn g hg), any_if_error,
          any_if_warning, Bool.false_eq_true, or_false, isReq_bne]),
    List.any_flatMap, List.any_eq_true]
  -- the catalogue lists the changes side by side: `∃ f ∈ ofs` is distributed over "removed" and "matched"
  unfold FieldsBreaking
  simp only [and_or_left, exists_or]
  rw [or_comm (a := ∃ f, f ∈ ofs ∧ _ ∧ _), or_assoc]
  -- what is left differs in the order of conjuncts and in the part for the fields only `nfs` has
  refine or_congr_right (or_congr (by simp only [and_comm]) (exists_congr fun g => and_congr_right fun _ => ?_))
  rw [any_ite_nil, List.any_append, any_if_warning, Bool.false_or, any_if_error, beq_iff_eq, and_comm]
  simp only [List.any_eq_true, beq_iff_eq, not_exists, not_and]

theorem normPrefix_eq_iff : ∀ {p q : List PTok}, normPrefix p = normPrefix q ↔ prefixAgree p q
  | [], [] => by simp [normPrefix, prefixAgree]
  | [], _ :: _ => by simp [normPrefix, prefixAgree]
  | _ :: _, [] => by simp [normPrefix, prefixAgree]
  | a :: p, b :: q => by
    have ih := @normPrefix_eq_iff p q
    simp only [normPrefix, List.map_cons, List.cons.injEq, prefixAgree] at ih ⊢
    rw [ih]
    cases a <;> cases b <;> simp [normTok, tokAgree]

theorem mem_allTys_field {p : Prog} {s : StructLike} {f : Field} (hs : s ∈ p.structs)
    (hf : f ∈ s.fields) : f.ty ∈ p.allTys := by
  simp only [Prog.allTys, List.mem_append, List.mem_flatMap, List.mem_map]
  exact Or.inl (Or.inl (Or.inr ⟨s, hs, f, hf, rfl⟩))

theorem mem_tys_ret {m : Method} {t : Ty} (h : m.ret = some t) : t ∈ m.tys := by
  simp [Method.tys, h]

theorem mem_tys_arg {m : Method} {f : Field} (h : f ∈ m.args) : f.ty ∈ m.tys :=
  List.mem_append_left _ (List.mem_append_right _ (List.mem_map_of_mem h))

theorem mem_tys_exc {m : Method} {f : Field} (h : f ∈ m.excs) : f.ty ∈ m.tys :=
  List.mem_append_right _ (List.mem_map_of_mem h)

theorem mem_allTys_method {p : Prog} {s : Service} {m : Method} {t : Ty} (hs : s ∈ p.services)
    (hm : m ∈ s.methods) (ht : t ∈ m.tys) : t ∈ p.allTys := by
  simp only [Prog.allTys, List.mem_append, List.mem_flatMap]
  exact Or.inl (Or.inr ⟨s, hs, m, hm, ht⟩)

theorem mem_allTys_op {p : Prog} {s : Scope} {o : Operation} (hs : s ∈ p.scopes)
    (ho : o ∈ s.ops) : o.ty ∈ p.allTys := by
  simp only [Prog.allTys, List.mem_append, List.mem_flatMap, List.mem_map]
  exact Or.inr ⟨s, hs, o, ho, rfl⟩

theorem checkScopes_iff {old new : Prog}
    (hs : (new.scopes.map (·.name)).Nodup) (hops : ∀ s ∈ new.scopes, (s.ops.map (·.name)).Nodup)
    (ro : ∀ t ∈ old.allTys, Resolves old t) (rn : ∀ t ∈ new.allTys, Resolves new t) :
    (checkScopes (Ctx.of old new) old.scopes new.scopes).any Finding.isError = true ↔
      ScopesBreaking old new := by
  refine any_forOld_key hs fun s hs0 s' hs' => ?_
  rw [List.any_append, Bool.or_eq_true, any_if_error, bne_iff_ne, ne_eq, normPrefix_eq_iff]
  exact or_congr Iff.rfl (any_forOld_key (hops s' hs') fun o ho o' ho' =>
    checkType_some (ro _ (mem_allTys_op hs0 ho)) (rn _ (mem_allTys_op hs' ho')))

theorem checkEnums_iff {old new : Prog}
    (hn : (new.enums.map (·.name)).Nodup) (hv : ∀ e ∈ new.enums, (e.values.map (·.num)).Nodup) :
    (checkEnums old.enums new.enums).any Finding.isError = true ↔ EnumsBreaking old new := by
  refine (any_forOld_iff (M := fun _ => False) hn (fun _ _ => by simp [Finding.isError])
    fun e _ e' he' => any_forOld_key (B := fun _ _ => False) (hv e' he') fun v _ v' _ => by
      rw [any_if_warning]; exact ⟨nofun, False.elim⟩).trans ?_
  simp only [and_false, false_or, exists_false, or_false]
  rfl

theorem checkNamespaces_ok (old new : List Namespace) :
    (checkNamespaces old new).any Finding.isError = false := by
  unfold checkNamespaces forOld
  rw [List.any_flatMap, List.any_eq_false]
  intro o _
  split
  · simp [Finding.isError]
  · simp [Finding.isError]

theorem checkConstants_ok (c : Ctx) (old new : List Const) :
    (checkConstants c old new).any Finding.isError = false := by
  unfold checkConstants forOld
  rw [List.any_flatMap, List.any_eq_false]
  intro o _
  split
  · simp [Finding.isError, checkType, List.any_replicate]
  · simp [Finding.isError]

theorem mem_ofKind {k : StructKind} {l : List StructLike} {s : StructLike} :
    s ∈ ofKind k l ↔ s ∈ l ∧ s.kind = k := by
  simp [ofKind]

theorem nodup_names_ofKind {k : StructKind} {l : List StructLike}
    (h : (l.map fun s => (s.kind, s.name)).Nodup) : ((ofKind k l).map (·.name)).Nodup := by
  unfold List.Nodup ofKind at *
  rw [List.pairwise_map] at h ⊢
  refine (h.filter _).imp_of_mem fun ha hb hne e => hne ?_
  rw [beq_iff_eq.mp (List.mem_filter.mp ha).2, beq_iff_eq.mp (List.mem_filter.mp hb).2, e]

theorem checkStructLike_iff {old new : Prog} (k : StructKind)
    (hn : (new.structs.map (fun s => (s.kind, s.name))).Nodup)
    (ho : ∀ s ∈ old.structs, fieldsWF s.fields) (hn' : ∀ s ∈ new.structs, fieldsWF s.fields)
    (ro : ∀ t ∈ old.allTys, Resolves old t) (rn : ∀ t ∈ new.allTys, Resolves new t) :
    (checkStructLike (Ctx.of old new) (ofKind k old.structs) (ofKind k new.structs)).any Finding.isError = true ↔
      ∃ s ∈ old.structs, s.kind = k ∧
        ((∀ s' ∈ new.structs, ¬ (s'.kind = s.kind ∧ s'.name = s.name))
          ∨ ∃ s' ∈ new.structs, s'.kind = s.kind ∧ s'.name = s.name ∧
              FieldsBreaking old new s.fields s'.fields) := by
  unfold checkStructLike
  rw [any_forOld_key (nodup_names_ofKind hn) fun s hs s' hs' =>
    checkFields_iff (ho s (mem_ofKind.mp hs).1) (hn' s' (mem_ofKind.mp hs').1)
      (fun f hf => ro _ (mem_allTys_field (mem_ofKind.mp hs).1 hf))
      (fun f hf => rn _ (mem_allTys_field (mem_ofKind.mp hs').1 hf))]
  -- a struct-like of kind `k` is matched among those of kind `k`: among all, by kind and name
  simp only [mem_ofKind, and_assoc]
  refine exists_congr fun s => and_congr_right fun _ => and_congr_right fun hk => ?_
  subst hk
  simp only [and_imp, not_and, ne_eq]

theorem structs_iff {old new : Prog}
    (hn : (new.structs.map (fun s => (s.kind, s.name))).Nodup)
    (ho : ∀ s ∈ old.structs, fieldsWF s.fields) (hn' : ∀ s ∈ new.structs, fieldsWF s.fields)
    (ro : ∀ t ∈ old.allTys, Resolves old t) (rn : ∀ t ∈ new.allTys, Resolves new t) :
    ((checkStructLike (Ctx.of old new) (ofKind .struct old.structs) (ofKind .struct new.structs)).any Finding.isError = true
      ∨ (checkStructLike (Ctx.of old new) (ofKind .exception old.structs) (ofKind .exception new.structs)).any Finding.isError = true
      ∨ (checkStructLike (Ctx.of old new) (ofKind .union old.structs) (ofKind .union new.structs)).any Finding.isError = true)
      ↔ StructsBreaking old new := by
  rw [checkStructLike_iff .struct hn ho hn' ro rn, checkStructLike_iff .exception hn ho hn' ro rn,
    checkStructLike_iff .union hn ho hn' ro rn]
  unfold StructsBreaking
  constructor
  · rintro (⟨s, hs, _, h⟩ | ⟨s, hs, _, h⟩ | ⟨s, hs, _, h⟩) <;> exact ⟨s, hs, h⟩
  · rintro ⟨s, hs, h⟩
    cases hk : s.kind
    · exact Or.inl ⟨s, hs, hk, h⟩
    · exact Or.inr (Or.inr ⟨s, hs, hk, h⟩)
    · exact Or.inr (Or.inl ⟨s, hs, hk, h⟩)

theorem checkMethod_iff {old new : Prog} {m m' : Method}
    (ha : fieldsWF m.args) (ha' : fieldsWF m'.args) (he : fieldsWF m.excs) (he' : fieldsWF m'.excs)
    (ro : ∀ t ∈ m.tys, Resolves old t) (rn : ∀ t ∈ m'.tys, Resolves new t) :
    (checkMethod (Ctx.of old new) m m').any Finding.isError = true ↔ MethodBreaking old new m m' := by
  unfold checkMethod MethodBreaking
  simp only [List.any_append, Bool.or_eq_true, or_assoc, any_if_error]
  rw [checkType_opt (fun t h => ro t (mem_tys_ret h)) (fun t h => rn t (mem_tys_ret h)),
    checkFields_iff ha ha' (fun f hf => ro _ (mem_tys_arg hf)) (fun f hf => rn _ (mem_tys_arg hf)),
    checkFields_iff he he' (fun f hf => ro _ (mem_tys_exc hf)) (fun f hf => rn _ (mem_tys_exc hf))]
  refine or_congr (by simp) (or_congr Iff.rfl (or_congr Iff.rfl (or_congr Iff.rfl (or_congr ?_ ?_))))
  · simp [List.isEmpty_iff]
  · simp [List.isEmpty_iff]

theorem checkServices_iff {old new : Prog}
    (hs : (new.services.map (·.name)).Nodup)
    (hm : ∀ s ∈ new.services, (s.methods.map (·.name)).Nodup)
    (ho : ∀ s ∈ old.services, ∀ m ∈ s.methods, fieldsWF m.args ∧ fieldsWF m.excs)
    (hn : ∀ s ∈ new.services, ∀ m ∈ s.methods, fieldsWF m.args ∧ fieldsWF m.excs)
    (ro : ∀ t ∈ old.allTys, Resolves old t) (rn : ∀ t ∈ new.allTys, Resolves new t) :
    (checkServices (Ctx.of old new) old.services new.services).any Finding.isError = true ↔
      ServicesBreaking old new := by
  refine any_forOld_key hs fun s hs0 s' hs' => ?_
  rw [List.any_append, Bool.or_eq_true, any_if_error]
  refine or_congr ?_ (any_forOld_key (hm s' hs') fun m hm0 m' hm' => ?_)
  · simp only [Option.isSome_iff_ne_none, bne_iff_ne, ne_eq]
    exact and_congr Iff.rfl ⟨fun h e => h e.symm, fun h e => h e.symm⟩
  · exact checkMethod_iff (ho s hs0 m hm0).1 (hn s' hs' m' hm').1 (ho s hs0 m hm0).2 (hn s' hs' m' hm').2
      (fun t ht => ro t (mem_allTys_method hs0 hm0 ht)) (fun t ht => rn t (mem_allTys_method hs' hm' ht))

theorem audit_iff {old new : Prog} (ho : WF old) (hn : WF new) :
    (audit old new).any Finding.isError = true ↔ Breaking old new := by
  unfold audit auditWith Breaking
  simp only [List.any_append, Bool.or_eq_true, checkNamespaces_ok, checkConstants_ok,
    Bool.false_eq_true, or_false]
  rw [checkScopes_iff hn.parts.scopes hn.parts.ops ho.parts.resolves hn.parts.resolves, checkEnums_iff hn.parts.enums hn.parts.enumValues,
    checkServices_iff hn.parts.services hn.parts.methods ho.parts.methodFields hn.parts.methodFields ho.parts.resolves hn.parts.resolves,
    ← structs_iff hn.parts.structs ho.parts.fields hn.parts.fields ho.parts.resolves hn.parts.resolves]
  simp only [or_assoc]

/-- `t` expands to `r` (with some fuel). -/
def ResTo (tds : TEnv) (t r : Ty) : Prop := ∃ f, resolve? tds f t = some r

theorem ResTo.unique {tds : TEnv} {t r r' : Ty} (h : ResTo tds t r) (h' : ResTo tds t r') : r = r' := by
  obtain ⟨f, hf⟩ := h; obtain ⟨g, hg⟩ := h'; exact resolve?_fuel_indep hf hg

/-- Below the hole is a container: a head-normal type, so what it expands to has its shape. -/
theorem resTo_plug_head {tds : TEnv} {c : TyCtx} {t r : Ty} (h : ResTo tds (c.plug t) r) (hc : c ≠ .hole) :
    ∃ f, HeadShape tds f r (c.plug t) := by
  obtain ⟨_ | f, hf⟩ := h
  · cases hf
  · refine ⟨f, resolve?_head hf ?_⟩
    cases c with
    | hole => exact absurd rfl hc
    | _ => exact ⟨fun _ => nofun, fun _ _ => nofun⟩

theorem plug_differs {otds ntds : TEnv} {a b : Ty}
    (hab : ∀ x y, ResTo otds a x → ResTo ntds b y → x ≠ y) :
    ∀ (c : TyCtx) {ra rb : Ty}, ResTo otds (c.plug a) ra → ResTo ntds (c.plug b) rb → ra ≠ rb := by
  intro c ra rb h1 h2
  induction c generalizing ra rb with
  | hole => exact hab _ _ h1 h2
  | list c ih | set c ih =>
    obtain ⟨f, x, hx, rfl⟩ := resTo_plug_head h1 nofun
    obtain ⟨g, y, hy, rfl⟩ := resTo_plug_head h2 nofun
    intro h; injection h with h; exact ih ⟨f, hx⟩ ⟨g, hy⟩ h
  | mapKey c v ih =>
    obtain ⟨f, x, _, hx, _, rfl⟩ := resTo_plug_head h1 nofun
    obtain ⟨g, y, _, hy, _, rfl⟩ := resTo_plug_head h2 nofun
    intro h; exact ih ⟨f, hx⟩ ⟨g, hy⟩ (Ty.map.inj h).1
  | mapVal k c ih =>
    obtain ⟨f, _, x, _, hx, rfl⟩ := resTo_plug_head h1 nofun
    obtain ⟨g, _, y, _, hy, rfl⟩ := resTo_plug_head h2 nofun
    intro h; exact ih ⟨f, hx⟩ ⟨g, hy⟩ (Ty.map.inj h).2

theorem typeChanged_plug {old new : Prog} {a b : Ty} (c : TyCtx)
    (hra : Resolves old (c.plug a)) (hrb : Resolves new (c.plug b))
    (hab : ∃ x y, ResTo old.env a x ∧ ResTo new.env b y ∧ x ≠ y) :
    TypeChanged old new (c.plug a) (c.plug b) := by
  obtain ⟨x, y, hx, hy, hne⟩ := hab
  obtain ⟨ra, hra'⟩ := Option.isSome_iff_exists.mp hra
  obtain ⟨rb, hrb'⟩ := Option.isSome_iff_exists.mp hrb
  unfold TypeChanged
  rw [hra', hrb']
  intro h
  refine plug_differs (fun x' y' hx' hy' => ?_) c ⟨_, hra'⟩ ⟨_, hrb'⟩ (Option.some.inj h)
  rw [hx'.unique hx, hy'.unique hy]; exact hne

theorem typeChanged_same {p p' : Prog} {t : Ty} (htd : p'.env = p.env)
    (h : Resolves p t) (h' : Resolves p' t) : ¬ TypeChanged p p' t t := by
  obtain ⟨r, hr⟩ := Option.isSome_iff_exists.mp h
  obtain ⟨r', hr'⟩ := Option.isSome_iff_exists.mp h'
  unfold TypeChanged
  rw [htd] at hr'
  rw [htd, hr, hr', resolve?_fuel_indep hr hr']
  simp

/-- With distinct keys, the item a compatible edit provides for a key is the one a breaking change
would be found in. -/
theorem matched_item {news : List β} {kn : β → κ} {k : κ} {Q R : β → Prop}
    (hn : (news.map kn).Nodup) (hq : ∃ n ∈ news, kn n = k ∧ Q n)
    (hr : (∀ n ∈ news, kn n ≠ k) ∨ ∃ n ∈ news, kn n = k ∧ R n) : ∃ n ∈ news, Q n ∧ R n := by
  obtain ⟨n, hm, hk, q⟩ := hq
  rcases hr with h | ⟨n', hm', hk', r⟩
  · exact absurd hk (h n hm)
  · exact ⟨n, hm, q, inj_of_nodup_map hn hm' hm (hk'.trans hk.symm) ▸ r⟩

theorem fieldsCompat_not_breaking {p p' : Prog} (htd : p'.env = p.env) {ofs nfs : List Field}
    (hn : fieldsWF nfs) (hc : FieldsCompat ofs nfs)
    (ro : ∀ f ∈ ofs, Resolves p f.ty) (rn : ∀ g ∈ nfs, Resolves p' g.ty) :
    ¬ FieldsBreaking p p' ofs nfs := by
  rintro (⟨f, hf, g, hg, hid, hbad⟩ | ⟨f, hf, _, hall⟩ | ⟨g, hg, hreq, hall⟩)
  · obtain ⟨g', hg', hid', hty, hreq⟩ := hc.1 f hf
    have : g = g' := inj_of_nodup_map hn hg hg' (hid.trans hid'.symm)
    subst this
    rcases hbad with h | h
    · rw [hty] at h
      exact typeChanged_same htd (ro f hf) (hty ▸ rn g hg) h
    · exact h hreq.symm
  · obtain ⟨g', hg', hid', _⟩ := hc.1 f hf; exact hall g' hg' hid'
  · obtain ⟨f, hf, hid⟩ := hc.2 g hg hreq; exact hall f hf hid

theorem methodCompat_not_breaking {p p' : Prog} (htd : p'.env = p.env) {m m' : Method}
    (ha' : fieldsWF m'.args) (he' : fieldsWF m'.excs) (hc : MethodCompat m m')
    (ro : ∀ t ∈ m.tys, Resolves p t) (rn : ∀ t ∈ m'.tys, Resolves p' t) :
    ¬ MethodBreaking p p' m m' := by
  obtain ⟨how, hret, hargs, hexcs, hvoid⟩ := hc
  rintro (h | h | h | h | ⟨h1, h2, h3⟩ | ⟨_, h2, h3⟩)
  · exact h how.symm
  · rw [hret] at h
    cases hr : m.ret with
    | none => rw [hr] at h; exact h
    | some t =>
      rw [hr] at h
      exact typeChanged_same htd (ro t (mem_tys_ret hr)) (rn t (mem_tys_ret (hret ▸ hr))) h
  · exact fieldsCompat_not_breaking htd ha' hargs (fun f hf => ro _ (mem_tys_arg hf))
      (fun f hf => rn _ (mem_tys_arg hf)) h
  · exact fieldsCompat_not_breaking htd he' hexcs (fun f hf => ro _ (mem_tys_exc hf))
      (fun f hf => rn _ (mem_tys_exc hf)) h
  · exact h3 (hvoid h1 h2)
  · obtain ⟨f, hf⟩ := List.exists_mem_of_ne_nil _ h3
    obtain ⟨g, hg, _⟩ := hexcs.1 f hf
    rw [h2] at hg; cases hg

theorem prefixAgree_refl : ∀ p : List PTok, prefixAgree p p
  | [] => trivial
  | a :: p => ⟨by cases a <;> simp [tokAgree], prefixAgree_refl p⟩

theorem compatible_not_breaking {p p' : Prog} (hw : WF p) (hw' : WF p') (hc : Compatible p p') :
    ¬ Breaking p p' := by
  have ro := hw.parts.resolves
  have rn := hw'.parts.resolves
  obtain ⟨htd0, hinc0, cscopes, cenums, cstructs, cservices⟩ := hc
  have htd : p'.env = p.env := by simp [Prog.env, htd0, hinc0]
  rintro (⟨s, hs, h⟩ | ⟨e, he, e', he', hn', v, hv, h⟩ | ⟨s, hs, h⟩ | ⟨s, hs, h⟩)
  · obtain ⟨s', hs', ⟨hp, hops⟩, h⟩ := matched_item hw'.parts.scopes (cscopes s hs) h
    rcases h with h | ⟨o, ho, h⟩
    · exact h hp
    · obtain ⟨o', ho', hty, h⟩ := matched_item (hw'.parts.ops s' hs') (hops o ho) h
      rw [hty] at h
      exact typeChanged_same htd (ro _ (mem_allTys_op hs ho)) (hty ▸ rn _ (mem_allTys_op hs' ho')) h
  · obtain ⟨v', hv', hnum⟩ := cenums e he e' he' hn' v hv
    exact h v' hv' hnum
  · obtain ⟨s1, hs1, hk1, hn1, hf1⟩ := cstructs s hs
    rcases h with h | ⟨s', hs', hk', hn', h⟩
    · exact h s1 hs1 ⟨hk1, hn1⟩
    · have : s' = s1 := inj_of_nodup_map hw'.parts.structs hs' hs1 (by simp only [hk', hn', hk1, hn1])
      subst this
      exact fieldsCompat_not_breaking htd (hw'.parts.fields s' hs') hf1 (fun f hf => ro _ (mem_allTys_field hs hf))
        (fun f hf => rn _ (mem_allTys_field hs' hf)) h
  · obtain ⟨s', hs', ⟨hext, hms⟩, h⟩ := matched_item hw'.parts.services (cservices s hs) h
    rcases h with ⟨hne, hch⟩ | ⟨m, hm, h⟩
    · exact hext.elim hne hch
    · obtain ⟨m', hm', hmc, h⟩ := matched_item (hw'.parts.methods s' hs') (hms m hm) h
      exact methodCompat_not_breaking htd (hw'.parts.methodFields s' hs' m' hm').1 (hw'.parts.methodFields s' hs' m' hm').2 hmc
        (fun t ht => ro t (mem_allTys_method hs hm ht)) (fun t ht => rn t (mem_allTys_method hs' hm' ht)) h

theorem fieldsCompat_refl (fs : List Field) : FieldsCompat fs fs :=
  ⟨fun f hf => ⟨f, hf, rfl, rfl, Iff.rfl⟩, fun g hg _ => ⟨g, hg, rfl⟩⟩

theorem fieldsCompat_map {fs : List Field} (h : Field → Field)
    (hpres : ∀ f, (h f).id = f.id ∧ (h f).ty = f.ty ∧ (h f).mod = f.mod) :
    FieldsCompat fs (fs.map h) := by
  refine ⟨fun f hf => ⟨h f, List.mem_map_of_mem hf, (hpres f).1, (hpres f).2.1, by rw [(hpres f).2.2]⟩, ?_⟩
  intro g hg _
  obtain ⟨f, hf, rfl⟩ := List.mem_map.mp hg
  exact ⟨f, hf, ((hpres f).1).symm⟩

theorem methodCompat_refl (m : Method) : MethodCompat m m :=
  ⟨rfl, rfl, fieldsCompat_refl _, fieldsCompat_refl _, fun _ h => h⟩

theorem compatible_refl {p : Prog} (hw : WF p) : Compatible p p := by
  refine ⟨rfl, rfl, fun s hs => ⟨s, hs, rfl, prefixAgree_refl _, fun o ho => ⟨o, ho, rfl, rfl⟩⟩, ?_,
    fun s hs => ⟨s, hs, rfl, rfl, fieldsCompat_refl _⟩,
    fun s hs => ⟨s, hs, rfl, Or.inr rfl, fun m hm => ⟨m, hm, rfl, methodCompat_refl m⟩⟩⟩
  intro e he e' he' hn v hv
  have : e' = e := inj_of_nodup_map hw.parts.enums he' he hn
  subst this; exact ⟨v, hv, rfl⟩

theorem resolve?_nameFree {e e' : TEnv} {f : Nat} {t : Ty} (h : t.nameFree = true) :
    resolve? e f t = resolve? e' f t := by
  induction f generalizing t with
  | zero => rfl
  | succ f ih => cases t <;> simp_all [resolve?, Ty.nameFree]

end FV.AuditProofs
