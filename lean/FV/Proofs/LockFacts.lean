/-
The tag-independent part of the lock checks, decided once on the regenerated facts of lib/go
(FV/Generated/Locks.lean). Every `cNN_lock_discipline`, `c13_calls_take_no_lifecycle_lock` and the lock-order
theorem rest on it and add only what concerns their own mutex tags.
-/
import FV.Generated.Locks
import FV.Proofs.Locks

namespace FV.Generated.Locks
open FV.Locks

/-- Ids are positions in `facts`, and six rounds did reach a table closed under the call relation. This breaks
only if the extractor misnumbers or a call chain of lib/go gets deeper than `closure` iterates — never because
of what some function does under a lock. -/
theorem facts_closed : (wellNumbered facts && closed facts (closure facts)) = true := by decide +kernel

theorem lock_order_acyclic : acyclic [1, 2, 3, 4, 5, 6, 7, 8] mutexTags facts = true := by
  simp only [acyclic, facts_closed, Bool.true_and]
  decide +kernel

end FV.Generated.Locks
