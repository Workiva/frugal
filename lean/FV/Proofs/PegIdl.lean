/-
Lemmas about the regenerated grammar (`FV.Generated.grammar`): the rule table, the first character
of a text, character classes, identifiers, integer constants, string literals, absent annotations.
Every lemma here is re-checked when grammar.peg changes.
The numerals in the fuel bounds: see the note on bounds in `Proofs/Peg.lean` (section on combinators).
-/
import FV.Proofs.Peg
import FV.Model.IdlActions
import FV.Generated.Grammar
open FV.Peg FV.Generated FV.Act

namespace FV.PegIdl

theorem lookup_of_mem {α β : Type} [BEq α] [LawfulBEq α] :
    ∀ {l : List (α × β)}, (l.map Prod.fst).Nodup → ∀ {k : α} {v : β}, (k, v) ∈ l → l.lookup k = some v
  | (a, b) :: r, hnd, k, v, h => by
    rw [List.map_cons, List.nodup_cons] at hnd
    rw [List.lookup_cons]
    rcases List.mem_cons.1 h with h | h
    · cases h; simp
    · have hne : (k == a) = false := beq_eq_false_iff_ne.2 fun e => hnd.1 (e ▸ (List.mem_map_of_mem (f := Prod.fst) h : k ∈ r.map Prod.fst))
      rw [hne]; exact lookup_of_mem hnd.2 h

theorem rule_names_nodup : (grammar.map Prod.fst).Nodup := by decide +kernel

/-- A rule reference finds the rule the table lists under that name.  Comparing two strings is what
is dear to evaluate, so it is done once for the whole table (`rule_names_nodup`); membership of a
pair in the table, which the `lk_` lemmas below supply, is syntactic: `repeat constructor` walks down
the literal list (`List.Mem.tail`) to the entry that is the pair itself (`List.Mem.head`), and no string is compared. -/
theorem lk {n : String} {e : Expr} (h : (n, e) ∈ grammar) : grammar.lookup n = some e :=
  lookup_of_mem rule_names_nodup h

theorem lk_Letter : grammar.lookup "Letter" = some rule_Letter := lk (by unfold grammar; repeat constructor)
theorem lk_Digit : grammar.lookup "Digit" = some rule_Digit := lk (by unfold grammar; repeat constructor)
theorem lk_Identifier : grammar.lookup "Identifier" = some rule_Identifier := lk (by unfold grammar; repeat constructor)
theorem lk_IntConstant : grammar.lookup "IntConstant" = some rule_IntConstant := lk (by unfold grammar; repeat constructor)
theorem lk_U : grammar.lookup "_" = some rule_U := lk (by unfold grammar; repeat constructor)
theorem lk_UU : grammar.lookup "__" = some rule_UU := lk (by unfold grammar; repeat constructor)
theorem lk_WS : grammar.lookup "WS" = some rule_WS := lk (by unfold grammar; repeat constructor)
theorem lk_Whitespace : grammar.lookup "Whitespace" = some rule_Whitespace := lk (by unfold grammar; repeat constructor)
theorem lk_EOL : grammar.lookup "EOL" = some rule_EOL := lk (by unfold grammar; repeat constructor)
theorem lk_EOS : grammar.lookup "EOS" = some rule_EOS := lk (by unfold grammar; repeat constructor)
theorem lk_EOF : grammar.lookup "EOF" = some rule_EOF := lk (by unfold grammar; repeat constructor)
theorem lk_Comment : grammar.lookup "Comment" = some rule_Comment := lk (by unfold grammar; repeat constructor)
theorem lk_MLC : grammar.lookup "MultiLineComment" = some rule_MultiLineComment := lk (by unfold grammar; repeat constructor)
theorem lk_MLCN : grammar.lookup "MultiLineCommentNoLineTerminator" = some rule_MultiLineCommentNoLineTerminator :=
  lk (by unfold grammar; repeat constructor)
theorem lk_SLC : grammar.lookup "SingleLineComment" = some rule_SingleLineComment := lk (by unfold grammar; repeat constructor)
theorem lk_SourceChar : grammar.lookup "SourceChar" = some rule_SourceChar := lk (by unfold grammar; repeat constructor)
theorem lk_DocString : grammar.lookup "DocString" = some rule_DocString := lk (by unfold grammar; repeat constructor)
theorem lk_TypeAnnotations : grammar.lookup "TypeAnnotations" = some rule_TypeAnnotations := lk (by unfold grammar; repeat constructor)
theorem lk_FieldType : grammar.lookup "FieldType" = some rule_FieldType := lk (by unfold grammar; repeat constructor)
theorem lk_BaseType : grammar.lookup "BaseType" = some rule_BaseType := lk (by unfold grammar; repeat constructor)
theorem lk_BaseTypeName : grammar.lookup "BaseTypeName" = some rule_BaseTypeName := lk (by unfold grammar; repeat constructor)
theorem lk_ContainerType : grammar.lookup "ContainerType" = some rule_ContainerType := lk (by unfold grammar; repeat constructor)
theorem lk_MapType : grammar.lookup "MapType" = some rule_MapType := lk (by unfold grammar; repeat constructor)
theorem lk_SetType : grammar.lookup "SetType" = some rule_SetType := lk (by unfold grammar; repeat constructor)
theorem lk_ListType : grammar.lookup "ListType" = some rule_ListType := lk (by unfold grammar; repeat constructor)
theorem lk_CppType : grammar.lookup "CppType" = some rule_CppType := lk (by unfold grammar; repeat constructor)
theorem lk_ListSeparator : grammar.lookup "ListSeparator" = some rule_ListSeparator := lk (by unfold grammar; repeat constructor)
theorem lk_EnumValue : grammar.lookup "EnumValue" = some rule_EnumValue := lk (by unfold grammar; repeat constructor)
theorem lk_Enum : grammar.lookup "Enum" = some rule_Enum := lk (by unfold grammar; repeat constructor)
theorem lk_Field : grammar.lookup "Field" = some rule_Field := lk (by unfold grammar; repeat constructor)
theorem lk_FieldList : grammar.lookup "FieldList" = some rule_FieldList := lk (by unfold grammar; repeat constructor)
theorem lk_FieldModifier : grammar.lookup "FieldModifier" = some rule_FieldModifier := lk (by unfold grammar; repeat constructor)
theorem lk_ConstValue : grammar.lookup "ConstValue" = some rule_ConstValue := lk (by unfold grammar; repeat constructor)
theorem lk_Literal : grammar.lookup "Literal" = some rule_Literal := lk (by unfold grammar; repeat constructor)
theorem lk_BoolConstant : grammar.lookup "BoolConstant" = some rule_BoolConstant := lk (by unfold grammar; repeat constructor)
theorem lk_DoubleConstant : grammar.lookup "DoubleConstant" = some rule_DoubleConstant := lk (by unfold grammar; repeat constructor)
theorem lk_StructLike : grammar.lookup "StructLike" = some rule_StructLike := lk (by unfold grammar; repeat constructor)
theorem lk_Struct : grammar.lookup "Struct" = some rule_Struct := lk (by unfold grammar; repeat constructor)
theorem lk_Union : grammar.lookup "Union" = some rule_Union := lk (by unfold grammar; repeat constructor)
theorem lk_Exception : grammar.lookup "Exception" = some rule_Exception := lk (by unfold grammar; repeat constructor)

/-- The first character of the text, if there is one, satisfies `P`.  `FV.Peg.StopsAt p`, `NoParen`,
`TokHead`, `UHead`, `SepOk`, `StopHead` and `NoFieldStart` are this predicate for their particular `P`
(each unfolds to `HeadP P x`), and are proved and used through the lemmas below without a bridge. -/
def HeadP (P : Char → Prop) (x : List Char) : Prop := ∀ c r, x = c :: r → P c

theorem HeadP.nil {P} : HeadP P [] := fun _ _ h => by cases h
theorem HeadP.cons {P} {c : Char} {r : List Char} (h : P c) : HeadP P (c :: r) := fun c' r' e => by
  injection e with e1 _; rw [← e1]; exact h
theorem HeadP.mono {P Q : Char → Prop} {x} (h : HeadP P x) (hpq : ∀ c, P c → Q c) : HeadP Q x := fun c r e => hpq c (h c r e)
theorem HeadP.and {P Q : Char → Prop} {x} (h1 : HeadP P x) (h2 : HeadP Q x) : HeadP (fun c => P c ∧ Q c) x :=
  fun c r e => ⟨h1 c r e, h2 c r e⟩

theorem HeadP.append_of {P Q : Char → Prop} {g y : List Char} (hg : HeadP Q g) (hq : ∀ c, Q c → P c)
    (hy : g = [] → HeadP P y) : HeadP P (g ++ y) := by
  cases g with
  | nil => exact hy rfl
  | cons a t => exact HeadP.cons (hq a (hg a t rfl))

theorem HeadP.append {P} {a b : List Char} (ha : HeadP P a) (hb : HeadP P b) : HeadP P (a ++ b) :=
  HeadP.append_of ha (fun _ h => h) fun _ => hb

theorem ne_of_class {p : Char → Bool} {c x : Char} (h : p c = true) (hx : p x = false) : c ≠ x :=
  fun e => by rw [e, hx] at h; cases h

/-- What `Letter` accepts (`[A-Za-z]`). -/
def letterC (c : Char) : Bool := clsMatches [] [('A', 'Z'), ('a', 'z')] false false c
/-- What `Digit` accepts (`[0-9]`). -/
def digitC (c : Char) : Bool := clsMatches [] [('0', '9')] false false c
/-- First-part characters of an identifier: `Letter / '_'`. -/
def idStart (c : Char) : Bool := letterC c || c == '_'
/-- Later characters: `Letter / Digit / [._]`. -/
def idPart (c : Char) : Bool := letterC c || digitC c || clsMatches ['.', '_'] [] false false c
/-- What `Whitespace` accepts: space, tab, carriage return. -/
def wsC (c : Char) : Bool := clsMatches [' ', '\t', '\r'] [] false false c
/-- Characters that start no item of any gap rule (every token of the rules below starts with one). -/
def tokC (c : Char) : Bool := !(wsC c || c == '\n' || c == '/' || c == '#')

theorem letterC_eq (c : Char) : letterC c = isLetter c := by
  simp [letterC, clsMatches, inRanges, isLetter, Bool.or_comm]

theorem digitC_eq (c : Char) : digitC c = isDigit c := by
  simp [digitC, clsMatches, inRanges, isDigit]

theorem idStart_idPart {c : Char} (h : idStart c = true) : idPart c = true := by
  simp only [idStart, idPart, Bool.or_eq_true, beq_iff_eq] at h ⊢
  rcases h with h | h
  · exact Or.inl (Or.inl h)
  · subst h; exact Or.inr (by decide)

theorem digit_idPart {c : Char} (h : digitC c = true) : idPart c = true := by
  simp [idPart, h]

theorem clsMatches_of_ne {cs : List Char} {c : Char} (h : ∀ x ∈ cs, c ≠ x) : clsMatches cs [] false false c = false := by
  simp only [clsMatches, inRanges, Bool.or_false, Bool.false_eq_true, if_false, List.contains_eq_mem, decide_eq_false_iff_not]
  exact fun hm => h c hm rfl

theorem idPart_not_ws {c : Char} (h : idPart c = true) : wsC c = false :=
  clsMatches_of_ne fun x hx => ne_of_class h (by revert x; decide)

theorem idPart_tok {c : Char} (h : idPart c = true) : tokC c = true := by
  simp only [tokC, idPart_not_ws h, Bool.false_or, Bool.not_eq_true', Bool.or_eq_false_iff, beq_eq_false_iff_ne]
  exact ⟨⟨ne_of_class h (by decide), ne_of_class h (by decide)⟩, ne_of_class h (by decide)⟩

theorem tokC_not_ws {c : Char} (h : tokC c = true) : wsC c = false ∧ c ≠ '/' := by
  simp only [tokC, Bool.not_eq_true', Bool.or_eq_false_iff, beq_eq_false_iff_ne] at h
  exact ⟨h.1.1.1, h.1.2⟩

/-- What a gap item starts with is no identifier character. -/
theorem nonTok_not_idPart {c : Char} (h : tokC c = false) : idPart c = false := by
  cases hp : idPart c with
  | false => rfl
  | true => rw [idPart_tok hp] at h; cases h

theorem nonTok_not_digit {c : Char} (h : tokC c = false) : digitC c = false := by
  cases hd : digitC c with
  | false => rfl
  | true => have := digit_idPart hd; rw [nonTok_not_idPart h] at this; cases this

theorem letter_matcher : CharMatcher grammar (.ref "Letter") letterC 2 := CharMatcher.ref_cls lk_Letter

theorem digit_matcher : CharMatcher grammar (.ref "Digit") digitC 2 := CharMatcher.ref_cls lk_Digit

theorem idStart_matcher : CharMatcher grammar (.choice [.ref "Letter", .lit ['_'] false]) idStart 4 :=
  (letter_matcher.choice_cons (CharMatcher.lit1.choice_cons .choice_nil)).congr fun c => by simp [idStart]

theorem idPart_matcher : CharMatcher grammar (.choice [.ref "Letter", .ref "Digit", .cls ['.', '_'] [] false false]) idPart 5 :=
  ((letter_matcher.mono (Nat.le_succ 2)).choice_cons (digit_matcher.choice_cons (CharMatcher.cls.choice_cons .choice_nil))).congr fun c => by
    simp [idPart, Bool.or_assoc]

/-- The tree `Identifier` builds for `c :: s` (greedy split into start and part characters). -/
def idTree (c : Char) (s : List Char) : Tree :=
  .act "Identifier1" (c :: s)
    (.seq [.seq ((c :: s.takeWhile idStart).map fun x => Tree.text [x]), .seq ((s.dropWhile idStart).map fun x => Tree.text [x])])

/-- `Identifier` consumes exactly an identifier-shaped string (first character a start
character, the others part characters) when the next character is not a part character. -/
theorem identifier_parses (c : Char) (s rest : List Char) (hc : idStart c = true) (hs : ∀ x ∈ s, idPart x = true)
    (hrest : StopsAt idPart rest) : ParsesTo grammar (.ref "Identifier") (c :: s ++ rest) (idTree c s) rest (s.length + 13) := by
  have hsplit : s.takeWhile idStart ++ s.dropWhile idStart = s := List.takeWhile_append_dropWhile
  have hlen : (s.takeWhile idStart).length + (s.dropWhile idStart).length = s.length := by
    rw [← List.length_append, hsplit]
  have h1 := ParsesTo.plus (idStart_matcher.parses _ hc) (StarRun.chars idStart_matcher (s.takeWhile idStart) (s.dropWhile idStart ++ rest)
    (List.all_eq_true.1 List.all_takeWhile) (StopsAt.dropWhile (hrest.of_imp fun _ => idStart_idPart)))
  have h2 := ParsesTo.star (StarRun.chars idPart_matcher (s.dropWhile idStart) rest (fun x hx => hs x (List.dropWhile_subset _ hx)) hrest)
  have h := ParsesTo.ref lk_Identifier (ParsesTo.act (ParsesTo.seq (k := s.length + 7)
    (SeqRun.cons_le h1 (by simp; omega) (SeqRun.cons_le h2 (by simp; omega) SeqRun.nil))))
  rw [← List.append_assoc, hsplit, consumed_of_eq (c :: (s ++ rest)) (c :: s) rest rfl] at h
  exact h.mono (by simp; omega)

theorem identifier_fails (x : List Char) (h : StopsAt idStart x) : FailsOn grammar (.ref "Identifier") x 12 :=
  (FailsOn.ref lk_Identifier (FailsOn.act (FailsOn.seq (k := 5) (SeqFail.head (FailsOn.plus (idStart_matcher.fails h)))))).mono (by decide)

def SignOk (sign : List Char) : Prop := sign = [] ∨ sign = ['-'] ∨ sign = ['+']

/-- The tree of the optional sign. -/
def signTree : List Char → Tree
  | [c] => .text [c]
  | _ => .nil

/-- The optional sign in front of a digit, for a class `cs` of sign characters. -/
theorem signOpt_parses {cs : List Char} (hcs : clsMatches cs [] false false '-' = true ∧ clsMatches cs [] false false '+' = true ∧
    ∀ x ∈ cs, digitC x = false) {sign : List Char} (hs : SignOk sign) {d : Char} (hd : digitC d = true) (y : List Char) :
    ParsesTo grammar (.opt (.cls cs [] false false)) (sign ++ d :: y) (signTree sign) (d :: y) 2 := by
  rcases hs with rfl | rfl | rfl
  · exact ParsesTo.opt_none (FailsOn.cls (clsMatches_of_ne fun x hx => ne_of_class hd (hcs.2.2 x hx)))
  · exact ParsesTo.opt_some (ParsesTo.cls hcs.1)
  · exact ParsesTo.opt_some (ParsesTo.cls hcs.2.1)

/-- `IntConstant` consumes exactly an optional sign and a non-empty run of digits. -/
theorem intconst_digits {sign : List Char} (hs : SignOk sign) {d : Char} {ds rest : List Char}
    (hd : digitC d = true) (hds : ∀ x ∈ ds, digitC x = true) (hrest : StopsAt digitC rest) :
    ParsesTo grammar (.ref "IntConstant") (sign ++ d :: ds ++ rest)
      (.act "IntConstant1" (sign ++ d :: ds) (.seq [signTree sign, .seq ((d :: ds).map fun x => Tree.text [x])])) rest (ds.length + 10) := by
  have h2 := ParsesTo.plus (digit_matcher.parses _ hd) (StarRun.chars digit_matcher ds rest hds hrest)
  have h := ParsesTo.ref lk_IntConstant (ParsesTo.act (ParsesTo.seq (k := ds.length + 4)
    (SeqRun.cons_le (signOpt_parses (by decide) hs hd (ds ++ rest)) (by omega) (SeqRun.cons_le h2 (by simp) SeqRun.nil))))
  rw [consumed_of_eq _ (sign ++ d :: ds) rest (by simp)] at h
  simpa using h.mono (by simp; omega : _ ≤ ds.length + 10)

/-- `strconv.ParseInt` of the matched text: the signed Horner value when it fits int64. -/
theorem parseInt_signed {sign : List Char} (hs : SignOk sign) {d : Char} (hd : digitC d = true) (ds : List Char) :
    parseInt (sign ++ d :: ds) = if sign = ['-'] then negInt (d :: ds) else posInt (d :: ds) := by
  rcases hs with rfl | rfl | rfl
  · simp [parseInt, ne_of_class hd (by decide : digitC '-' = false), ne_of_class hd (by decide : digitC '+' = false)]
  · rfl
  · rfl

theorem actErr_int (tx : List Char) : actErr "IntConstant1" tx = (parseInt tx).isNone := by
  simp [actErr]

/-- The body of a written literal with quote `q` is scanned by `(\q / [^q])*` up to its end and not
beyond: no bare `q` inside, and it does not end in a backslash that would pair with the closing quote. -/
def litBodyOk (q : Char) : List Char → Bool
  | [] => true
  | [c] => c != q && c != '\\'
  | c :: c2 :: r2 =>
    if c = '\\' then (if c2 = q then litBodyOk q r2 else litBodyOk q (c2 :: r2))
    else (c != q && litBodyOk q (c2 :: r2))

def litItemE (q : Char) : Expr := .choice [.lit ['\\', q] false, .cls [q] [] true false]

theorem litItem_single (q c : Char) (x : List Char) (hcq : c ≠ q) (hpair : c = '\\' → HeadP (fun d => d ≠ q) x) :
    ParsesTo grammar (litItemE q) (c :: x) (.text [c]) x 5 := by
  have hf : matchLit false ['\\', q] (c :: x) = none := by
    by_cases hc : c = '\\'
    · subst hc; simpa [matchLit] using matchLit_head (w := q) (ws := []) (hpair rfl)
    · simp [matchLit, hc]
  exact ParsesTo.choice (ChoiceRun.tail (FailsOn.lit hf) (ChoiceRun.head (ParsesTo.cls (by simp [clsMatches, inRanges, hcq]))))

theorem litItem_pair (q : Char) (x : List Char) : ParsesTo grammar (litItemE q) ('\\' :: q :: x) (.text ['\\', q]) x 5 :=
  ParsesTo.choice (ChoiceRun.head (ParsesTo.lit_append ['\\', q] x))

theorem litItem_stop (q : Char) (hq : q ≠ '\\') (next : List Char) : FailsOn grammar (litItemE q) (q :: next) 5 :=
  FailsOn.choice (k := 1) (allFail_cons (FailsOn.lit_head (HeadP.cons hq)) (allFail_cons (FailsOn.cls (by simp [clsMatches, inRanges])) allFail_nil))

/-- `(\\q / [^q])*` scans a body that is `litBodyOk` up to the closing quote (induction on a bound `n` of the length,
since an escaped quote takes two characters at once). -/
theorem litBody_run (q : Char) (hq : q ≠ '\\') (next : List Char) : ∀ (n : Nat) (body : List Char), body.length ≤ n → litBodyOk q body = true →
    ∃ ts, StarRun grammar (litItemE q) 5 (body ++ q :: next) ts (q :: next) ∧ ts.length ≤ body.length
  | _, [], _, _ => ⟨[], .done (litItem_stop q hq next), Nat.le_refl _⟩
  | _, [c], _, hok => by
    simp only [litBodyOk, Bool.and_eq_true, bne_iff_ne, ne_eq] at hok
    exact ⟨[.text [c]], .step (litItem_single q c (q :: next) hok.1 fun h => absurd h hok.2) (.done (litItem_stop q hq next)), Nat.le_refl _⟩
  | n + 1, c :: c2 :: r2, hl, hok => by
    simp only [litBodyOk] at hok
    by_cases hc : c = '\\'
    · subst hc
      by_cases h2 : c2 = q
      · subst h2
        obtain ⟨ts, hr, hlen⟩ := litBody_run c2 hq next n r2 (by simp at hl; omega) (by simpa using hok)
        exact ⟨_ :: ts, .step (litItem_pair c2 (r2 ++ c2 :: next)) hr, by simp; omega⟩
      · obtain ⟨ts, hr, hlen⟩ := litBody_run q hq next n (c2 :: r2) (by simp at hl ⊢; omega) (by simpa [h2] using hok)
        exact ⟨_ :: ts, .step (litItem_single q '\\' (c2 :: r2 ++ q :: next) (Ne.symm hq) fun _ => HeadP.cons h2) hr, by simp at hlen ⊢; omega⟩
    · simp only [hc, if_false, Bool.and_eq_true, bne_iff_ne, ne_eq] at hok
      obtain ⟨ts, hr, hlen⟩ := litBody_run q hq next n (c2 :: r2) (by simp at hl ⊢; omega) hok.2
      exact ⟨_ :: ts, .step (litItem_single q c (c2 :: r2 ++ q :: next) hok.1 fun h => absurd h hc) hr, by simp at hlen ⊢; omega⟩

def IsQuote (q : Char) : Prop := q = '"' ∨ q = '\''

/-- `Literal` consumes exactly `q` body `q`; the action sees its text. -/
theorem literal_exact (q : Char) (hq : IsQuote q) (body next : List Char) (hok : litBodyOk q body = true) :
    ∃ t, ParsesTo grammar (.ref "Literal") (q :: body ++ q :: next) t next (2 * body.length + 20) ∧
      tagOf t = "Literal1" ∧ textOf t = q :: body ++ [q] := by
  obtain ⟨ts, hrun, hlen⟩ := litBody_run q (by rcases hq with rfl | rfl <;> decide) next body.length body (Nat.le_refl _) hok
  have hs : ParsesTo grammar (.seq [.lit [q] false, .star (litItemE q), .lit [q] false]) (q :: body ++ q :: next) _ next (body.length + 12) :=
    (ParsesTo.seq (k := body.length + 7) (SeqRun.cons_le (ParsesTo.lit_append [q] _) (by omega) (SeqRun.cons_le (ParsesTo.star hrun) (by omega)
      (SeqRun.cons_le (ParsesTo.lit_append [q] next) (by omega) SeqRun.nil)))).mono (by fuel_le)
  suffices h : ∃ k, ParsesTo grammar (.ref "Literal") (q :: body ++ q :: next) (.act "Literal1" (consumed (q :: body ++ q :: next) next)
      (.seq [.text [q], .seq ts, .text [q]])) next k ∧ k ≤ 2 * body.length + 20 by
    obtain ⟨k, hp, hk⟩ := h
    rw [consumed_of_eq _ (q :: body ++ [q]) next (by simp)] at hp
    exact ⟨_, hp.mono hk, rfl, rfl⟩
  rcases hq with rfl | rfl
  · exact ⟨_, ParsesTo.ref lk_Literal (ParsesTo.act (ParsesTo.choice (ChoiceRun.head hs))), by fuel_le⟩
  · exact ⟨_, ParsesTo.ref lk_Literal (ParsesTo.act (ParsesTo.choice (ChoiceRun.tail
      ((FailsOn.seq (k := 1) (SeqFail.head (FailsOn.lit_head (HeadP.cons (by decide))))).mono (by fuel_le)) (ChoiceRun.head hs)))), by fuel_le⟩

/-- The text does not start with `(` (no annotations follow). -/
def NoParen (x : List Char) : Prop := ∀ c r, x = c :: r → c ≠ '('

theorem noAnns (x : List Char) (h : NoParen x) : ParsesTo grammar (.opt (.ref "TypeAnnotations")) x .nil x 11 :=
  (ParsesTo.opt_none (FailsOn.ref lk_TypeAnnotations (FailsOn.act (FailsOn.seq (SeqFail.head (FailsOn.lit_head h)))))).mono (by decide)

/-- How a character of the value is written between double quotes. -/
def escDQ (c : Char) : List Char :=
  if c = '"' then ['\\', '"'] else if c = '\\' then ['\\', '\\'] else if c = '\n' then ['\\', 'n']
  else if c = '\t' then ['\\', 't'] else if c = '\r' then ['\\', 'r'] else [c]

def renderDQ : List Char → List Char
  | [] => []
  | c :: r => escDQ c ++ renderDQ r

/-- Read back, the escape of `c` is `c`: the one place that goes through `escDQ` case by case. -/
theorem unquoteBody_escDQ (c : Char) (r acc : List Char) : unquoteBody (escDQ c ++ r) acc = unquoteBody r (c :: acc) := by
  by_cases h1 : c = '"'
  · subst h1; simp [escDQ, unquoteBody]
  by_cases h2 : c = '\\'
  · subst h2; simp [escDQ, unquoteBody]
  by_cases h3 : c = '\n'
  · subst h3; simp [escDQ, unquoteBody]
  by_cases h4 : c = '\t'
  · subst h4; simp [escDQ, unquoteBody]
  by_cases h5 : c = '\r'
  · subst h5; simp [escDQ, unquoteBody]
  simp [escDQ, unquoteBody, h1, h2, h3, h4, h5]

/-- `strconv.Unquote` gives the value back. -/
theorem unquote_renderDQ : ∀ (v acc : List Char), unquoteBody (renderDQ v) acc = .ok (acc.reverse ++ v)
  | [], acc => by simp [renderDQ, unquoteBody]
  | c :: r, acc => by rw [renderDQ, unquoteBody_escDQ, unquote_renderDQ r]; simp

theorem literalValue_renderDQ (v : List Char) : literalValue ('"' :: renderDQ v ++ ['"']) = .ok v := by
  simp [literalValue, unquote_renderDQ]

/-- The value ends in a backslash (the class of the recorded finding literal-trailing-backslash). -/
def endsBS : List Char → Bool
  | [] => false
  | [c] => c == '\\'
  | _ :: c2 :: r2 => endsBS (c2 :: r2)

theorem lbo_cons_ne (q c : Char) (R : List Char) (h1 : c ≠ '\\') (h2 : c ≠ q) : litBodyOk q (c :: R) = litBodyOk q R := by
  cases R with
  | nil => simp [litBodyOk, h1, h2]
  | cons c2 r2 => simp [litBodyOk, h1, h2]

theorem lbo_pair (q : Char) (R : List Char) : litBodyOk q ('\\' :: q :: R) = litBodyOk q R := by
  simp [litBodyOk]

theorem lbo_bs (q c2 : Char) (R : List Char) (h : c2 ≠ q) : litBodyOk q ('\\' :: c2 :: R) = litBodyOk q (c2 :: R) := by
  simp [litBodyOk, h]

/-- What the scan of a literal's body can tell apart in how `escDQ` writes a character: an escaped quote, an
escaped backslash, a backslash before another character (`n`, `t`, `r`), the character itself. -/
theorem escDQ_shape (c : Char) :
    escDQ c = ['\\', '"'] ∨ (c = '\\' ∧ escDQ c = ['\\', '\\']) ∨
    (∃ l, l ≠ '"' ∧ l ≠ '\\' ∧ escDQ c = ['\\', l]) ∨ (c ≠ '"' ∧ c ≠ '\\' ∧ escDQ c = [c]) := by
  by_cases h1 : c = '"'
  · exact .inl (if_pos h1)
  by_cases h2 : c = '\\'
  · exact .inr (.inl ⟨h2, by rw [escDQ, if_neg h1, if_pos h2]⟩)
  refine .inr (.inr ?_)
  rw [escDQ, if_neg h1, if_neg h2]
  by_cases h3 : c = '\n'
  · exact .inl ⟨'n', by decide, by decide, if_pos h3⟩
  by_cases h4 : c = '\t'
  · exact .inl ⟨'t', by decide, by decide, by rw [if_neg h3, if_pos h4]⟩
  by_cases h5 : c = '\r'
  · exact .inl ⟨'r', by decide, by decide, by rw [if_neg h3, if_neg h4, if_pos h5]⟩
  exact .inr ⟨h1, h2, by rw [if_neg h3, if_neg h4, if_neg h5]⟩

/-- The second conjunct is the strengthening the induction needs: a backslash of the value is written as
two, and the scan of a backslash followed by anything but the quote goes on AT that second character; so the
case `c = '\\'` asks for the body of the rest behind a backslash. -/
theorem renderDQ_ok : ∀ (v : List Char), endsBS v = false →
    litBodyOk '"' (renderDQ v) = true ∧ (v ≠ [] → litBodyOk '"' ('\\' :: renderDQ v) = true) := by
  intro v
  induction v with
  | nil => intro _; exact ⟨rfl, fun h => absurd rfl h⟩
  | cons c r ih =>
    intro hv
    have hr : r ≠ [] → endsBS r = false := by
      intro hne
      cases r with
      | nil => exact absurd rfl hne
      | cons c2 r2 => simpa [endsBS] using hv
    have ihA : litBodyOk '"' (renderDQ r) = true := by
      cases r with
      | nil => rfl
      | cons c2 r2 => exact (ih (hr (by simp))).1
    rw [renderDQ]
    rcases escDQ_shape c with e | ⟨rfl, e⟩ | ⟨l, h1, h2, e⟩ | ⟨h1, h2, e⟩ <;>
      simp only [e, List.cons_append, List.nil_append]
    · exact ⟨by rw [lbo_pair]; exact ihA, fun _ => by rw [lbo_bs _ _ _ (by decide), lbo_pair]; exact ihA⟩
    · have hne : r ≠ [] := by intro e; subst e; simp [endsBS] at hv
      have ihB := (ih (hr hne)).2 hne
      exact ⟨by rw [lbo_bs _ _ _ (by decide)]; exact ihB,
        fun _ => by rw [lbo_bs _ _ _ (by decide), lbo_bs _ _ _ (by decide)]; exact ihB⟩
    · exact ⟨by rw [lbo_bs _ _ _ h1, lbo_cons_ne _ _ _ h2 h1]; exact ihA,
        fun _ => by rw [lbo_bs _ _ _ (by decide), lbo_bs _ _ _ h1, lbo_cons_ne _ _ _ h2 h1]; exact ihA⟩
    · exact ⟨by rw [lbo_cons_ne _ _ _ h2 h1]; exact ihA, fun _ => by rw [lbo_bs _ _ _ h1, lbo_cons_ne _ _ _ h2 h1]; exact ihA⟩

end FV.PegIdl
